/-
  Properties/TablesLogical.lean — the time constants and the dispatch of the logical readers and writers
  (Gen/Tables.lean).  Built by the check of C16 and by no other.
-/
import Properties.TablesCommon
import Model.Logical
namespace Tables

theorem time_constants :
    int? "const.MCS_PER_SECOND" = some Logical.MCS_PER_SECOND ∧ int? "const.MCS_PER_MINUTE" = some Logical.MCS_PER_MINUTE ∧
    int? "const.MCS_PER_HOUR" = some Logical.MCS_PER_HOUR ∧ int? "const.MLS_PER_SECOND" = some Logical.MLS_PER_SECOND ∧
    int? "const.MLS_PER_MINUTE" = some Logical.MLS_PER_MINUTE ∧ int? "const.MLS_PER_HOUR" = some Logical.MLS_PER_HOUR ∧
    int? "const.DAYS_SHIFT" = some Logical.DAYS_SHIFT := by
  decide +kernel

theorem logical_dispatch :
    disp? "_logical_writers_py.LOGICAL_WRITERS" "long-timestamp-millis" = some "prepare_timestamp_millis" ∧
    disp? "_logical_writers_py.LOGICAL_WRITERS" "long-local-timestamp-millis" = some "prepare_local_timestamp_millis" ∧
    disp? "_logical_writers_py.LOGICAL_WRITERS" "long-timestamp-micros" = some "prepare_timestamp_micros" ∧
    disp? "_logical_writers_py.LOGICAL_WRITERS" "long-local-timestamp-micros" = some "prepare_local_timestamp_micros" ∧
    disp? "_logical_writers_py.LOGICAL_WRITERS" "int-date" = some "prepare_date" ∧
    disp? "_logical_writers_py.LOGICAL_WRITERS" "bytes-decimal" = some "prepare_bytes_decimal" ∧
    disp? "_logical_writers_py.LOGICAL_WRITERS" "fixed-decimal" = some "prepare_fixed_decimal" ∧
    disp? "_logical_writers_py.LOGICAL_WRITERS" "string-uuid" = some "prepare_uuid" ∧
    disp? "_logical_writers_py.LOGICAL_WRITERS" "int-time-millis" = some "prepare_time_millis" ∧
    disp? "_logical_writers_py.LOGICAL_WRITERS" "long-time-micros" = some "prepare_time_micros" ∧
    disp? "_logical_readers_py.LOGICAL_READERS" "long-timestamp-millis" = some "read_timestamp_millis" ∧
    disp? "_logical_readers_py.LOGICAL_READERS" "long-local-timestamp-millis" = some "read_local_timestamp_millis" ∧
    disp? "_logical_readers_py.LOGICAL_READERS" "long-timestamp-micros" = some "read_timestamp_micros" ∧
    disp? "_logical_readers_py.LOGICAL_READERS" "long-local-timestamp-micros" = some "read_local_timestamp_micros" ∧
    disp? "_logical_readers_py.LOGICAL_READERS" "int-date" = some "read_date" ∧
    disp? "_logical_readers_py.LOGICAL_READERS" "bytes-decimal" = some "read_decimal" ∧
    disp? "_logical_readers_py.LOGICAL_READERS" "fixed-decimal" = some "read_decimal" ∧
    disp? "_logical_readers_py.LOGICAL_READERS" "string-uuid" = some "read_uuid" ∧
    disp? "_logical_readers_py.LOGICAL_READERS" "int-time-millis" = some "read_time_millis" ∧
    disp? "_logical_readers_py.LOGICAL_READERS" "long-time-micros" = some "read_time_micros" := by
  decide +kernel

end Tables
