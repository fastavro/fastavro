/-
  Properties/C09.lean — union branch choice is deterministic, honours hints, and follows the documented rule.
  The closure clause is proved for one branch and one union level (`c09_closure_branch`, `c09_closure_union_level`);
  the induction over the whole datum is checked on the implementation, for every reader option, and not proved.
  Determinism "as a function of schema and datum alone" is by construction here (a pure function);
  that the implementation has no hidden state is property C17.
-/
import Proofs.Choose
import Proofs.Validate

open Binary ChooseProofs

/-- **C09 (hints).** a `(name, value)` tuple selects exactly the first branch named so — the full name
    for named types, the type name otherwise — and the value written is `value`; when no branch has
    that name, writing is an error (ValueError) -/
theorem c09_hint (fuel : Nat) (env : Env) (o : WOpts) (bs : List Schema) (nameV inner : Val)
    (hdt : o.disableTuple = false) :
    let i := bs.findIdx fun b => nameV.strEq b.hintName
    (i < bs.length → choose fuel env o bs (.tuple [nameV, inner]) = .ok (i, inner)) ∧
    (¬ i < bs.length → choose fuel env o bs (.tuple [nameV, inner]) = .error .value) := by
  simp only [choose, hdt]
  exact ⟨fun h => if_pos h, fun h => if_neg h⟩

/-- **C09 (choice rule).** without a hint, for a plain schema and whenever validating the datum
    against the branches raises no exception, the writer's choice is exactly `Spec.choose`: the first
    conforming non-record branch (a float-conforming value goes to the first later `double` branch),
    otherwise the conforming record sharing most field names, first on ties; an error when nothing
    conforms. With a hint both sides select the first branch of that name. -/
theorem c09_choose_eq_spec (fuel : Nat) (env : Env) (o : WOpts) (bs : List Schema) (v : Val)
    (henv : env.plain = true) (hbs : ∀ b ∈ bs, b.plain = true)
    (hnoexc : ∀ b ∈ bs, ∃ r, Validate.validate fuel env o.toV false "" b (some v) = .ok r) :
    (choose fuel env o bs v).toOption = Spec.choose fuel env o.strict o.disableTuple bs v := by
  have hval : ∀ b ∈ bs, Validate.validate fuel env o.toV false "" b (some v) =
      .ok (Spec.conforms fuel env o.strict o.disableTuple b v) := by
    intro b hb
    obtain ⟨r, hr⟩ := hnoexc b hb
    rw [hr, ← ValidateProofs.validate_eq_conforms henv (hbs b hb) hr]; rfl
  obtain ⟨st, hst, hbest⟩ := scan_eq_spec (st := {}) hval rfl rfl 0
  -- what `choose` does on every un-hinted path
  have hun : (do let st ← scan fuel env o v {} 0 bs
                 match st.best with
                 | some i => pure (i, v)
                 | none => throw Err.value : R (Nat × Val)).toOption =
      (Spec.chooseFrom (fun b => Spec.conforms fuel env o.strict o.disableTuple b v) env v none (-1) 0 bs).map (·, v) := by
    rw [hst, R.ok_bind, ← hbest]
    cases st.best <;> rfl
  cases v
  case tuple xs =>
    cases hd : o.disableTuple
    · match xs with
      | [nameV, inner] =>   -- a hint: the same `if` on both sides
        simp only [choose, Spec.choose, Spec.branchName, hd, apply_ite Except.toOption]; rfl
      | [] | [_] | _ :: _ :: _ :: _ => simp only [choose, Spec.choose, hd]; rfl
    · simp only [choose, Spec.choose, hd]; rw [hd] at hun; exact hun
  all_goals exact hun

/-! non-vacuity: the float-then-double deferral and the most-shared-fields rule on concrete unions -/
example : ((Spec.choose 4 [] false false
    [.prim .string false none, .prim .float false none, .prim .long false none, .prim .double false none] (.float 0)).map (·.1)) =
    some 3 := by decide +kernel
example : ((Spec.choose 4 [] false false
    [.record "A" [.mk "x" (.prim .int false none) none [], .mk "y" (.prim .int false none) (some (.int 1)) []] [],
     .record "B" [.mk "x" (.prim .int false none) none [], .mk "z" (.prim .int false none) (some (.int 1)) []] []]
    (.dict [(.str "x", .int 1), (.str "z", .int 2)])).map (·.1)) = some 1 := by
  decide +kernel

/-- **C09 (closure, branch level).** With named-type reporting on, the value `read_union` reports for a named branch —
    the pair (name, value) — written back under the same union selects exactly the branch it was read from, provided no
    earlier branch goes by the same name (the specification forbids two named types of one name in a union).  For a
    branch given by name the reported name is the definition's, which the table of named schemas keeps equal to the
    reference (`hdef`). -/
theorem c09_closure_branch (fuel : Nat) (env : Env) (o : WOpts) (ro : ROpts) (bs : List Schema) (i : Nat) (b : Schema) (result : Val)
    (hb : bs[i]? = some b)
    (hnamed : b.isNamedDef = true ∨ ∃ n d, b = .ref n ∧ env.get? n = some d ∧ d.defName? = some n)
    (hro : ro.returnNamedType = true) (hov : (ro.returnNamedTypeOverride && (unionCounts bs).1 == 1) = false)
    (hfirst : ∀ j, j < i → ∀ b', bs[j]? = some b' → b'.hintName ≠ b.hintName)
    (hdt : o.disableTuple = false) :
    wrapUnionResult env ro bs b result = .ok (.tuple [.str b.hintName, result]) ∧
    choose fuel env o bs (.tuple [.str b.hintName, result]) = .ok (i, result) := by
  obtain ⟨hlt, hbi⟩ := List.getElem?_eq_some_iff.mp hb
  constructor
  · unfold wrapUnionResult
    simp only [hov, Bool.false_eq_true, if_false, hro, Bool.true_and]
    rcases hnamed with hn | ⟨n, d, rfl, hget, hdn⟩
    · cases b <;> simp [Schema.isNamedDef] at hn <;> simp [Schema.hintName, pure, Except.pure]
    · simp [hget, hdn, Schema.hintName, Schema.typeName, pure, Except.pure]
  · obtain rfl : (bs.findIdx fun b' => (Val.str b.hintName).strEq b'.hintName) = i := by
      refine (List.findIdx_eq hlt).mpr ⟨?_, fun j hj => ?_⟩
      · simp [Val.strEq, hbi]  -- branch `i` goes by the name
      · simpa [Val.strEq] using (hfirst j hj _ (List.getElem?_eq_getElem _)).symm  -- no earlier branch does
    exact (c09_hint fuel env o bs (.str b.hintName) result hdt).1 hlt

/-- **C09 (closure, one union level).** If a datum was written to a union under branch `i` — a named branch, the first of its
    name — and what the reader reports for the value inside re-encodes under that branch to the same bytes (`hinner`: the
    clause for the value one level down), then the (name, value) pair the reader reports for the union re-encodes to the
    identical bytes of the union. -/
theorem c09_closure_union_level (fuel : Nat) (env : Env) (o : WOpts) (ro : ROpts) (bs : List Schema) (v v' r : Val) (i : Nat) (b : Schema)
    (hch : choose fuel env o bs v = .ok (i, v')) (hb : bs[i]? = some b)
    (hnamed : b.isNamedDef = true ∨ ∃ n d, b = .ref n ∧ env.get? n = some d ∧ d.defName? = some n)
    (hro : ro.returnNamedType = true) (hov : (ro.returnNamedTypeOverride && (unionCounts bs).1 == 1) = false)
    (hfirst : ∀ j, j < i → ∀ b', bs[j]? = some b' → b'.hintName ≠ b.hintName) (hdt : o.disableTuple = false)
    (hinner : writeData fuel env o b r = writeData fuel env o b v') :
    ∃ reported, wrapUnionResult env ro bs b r = .ok reported ∧
      writeData (fuel+1) env o (.union bs) reported = writeData (fuel+1) env o (.union bs) v := by
  obtain ⟨h1, h2⟩ := c09_closure_branch fuel env o ro bs i b r hb hnamed hro hov hfirst hdt
  refine ⟨_, h1, ?_⟩
  simp only [writeData, h2, hch, hb, hinner]
