/-
  Properties/TablesContainer.lean — the container constants, the block-codec dispatch and `_is_appendable`
  (Gen/Tables.lean).  Built by the checks of C04–C07 and by no other.
-/
import Properties.TablesCommon
import Model.Container

namespace Tables

theorem container_constants :
    Gen.byteConsts.lookup "_read_common.MAGIC" = some [0x4F, 0x62, 0x6A, 1] ∧
    int? "_read_common.SYNC_SIZE" = some 16 := by decide +kernel

theorem block_codecs_dispatch :
    disp? "_write_py.BLOCK_WRITERS" "null" = some "null_write_block" ∧
    disp? "_write_py.BLOCK_WRITERS" "deflate" = some "deflate_write_block" ∧
    disp? "_write_py.BLOCK_WRITERS" "bzip2" = some "bzip2_write_block" ∧
    disp? "_write_py.BLOCK_WRITERS" "xz" = some "xz_write_block" ∧
    disp? "_read_py.BLOCK_READERS" "null" = some "null_read_block" ∧
    disp? "_read_py.BLOCK_READERS" "deflate" = some "deflate_read_block" ∧
    disp? "_read_py.BLOCK_READERS" "bzip2" = some "bzip2_read_block" ∧
    disp? "_read_py.BLOCK_READERS" "xz" = some "xz_read_block" := by
  decide +kernel

/-- `_is_appendable` of the current source, run in isolation over its whole decision domain by the translator,
    is the model's decision table -/
theorem appendable_table :
    Gen.appendableTable.all (fun (s, p, o, r, out) =>
      (match Container.isAppendable ⟨s, if p then 5 else 0, o, r⟩ with
        | .ok true => "true" | .ok false => "false" | .error .value => "ValueError" | .error _ => "other") == out) = true ∧
    Gen.appendableTable.length = 24 := by decide +kernel

end Tables
