/-
  Properties/C01.lean — binary round trip.
-/
import Proofs.Codec

open Binary

/-- `read_long` inverts `write_long` on the whole int64 range and consumes exactly the bytes written -/
theorem c01_long_roundtrip (n : Int) (hlo : -(2^63) ≤ n) (hhi : n < 2^63) (rest : Bytes) :
    ∃ bs, encodeLong n = WR.ok bs ∧ decodeLong (bs ++ rest) = .ok (n, rest) :=
  ⟨_, VarintProofs.encodeLong_eq_spec n hlo hhi, VarintProofs.decode_spec n rest⟩

/-- **C01.** For every schema (primitives, records with defaults, enums, fixed, arrays, maps, unions,
    by-name references incl. recursive ones — `env` is the table of named schemas), every writer
    option set and every datum whose documented normal form `nf` is defined: the bytes `write_data`
    emits are read back by `read_data` as exactly `nf`, and the reader consumes exactly those bytes
    (whatever follows, `rest`, is returned untouched).  No bound on sizes or depth: `fuel` is only the
    nesting depth the call is given, and the same `fuel` that sufficed to write suffices to read. -/
theorem c01_roundtrip (env : Env) (o : WOpts) (fuel : Nat) (s : Schema) (v nf : Val) (bs rest : Bytes)
    (hw : writeData fuel env o s v = ⟨bs, none⟩)
    (hn : Spec.normalize fuel env o s v = some nf) :
    readData fuel env {} s (bs ++ rest) = .ok (nf, rest) :=
  (CodecProofs.write_faithful env o fuel s v bs nf hw hn).2 rest

/-- values written back to back on one stream are read back one by one -/
theorem c01_stream (env : Env) (o : WOpts) (fuel : Nat) (s : Schema) (vs nfs : List Val) (bs rest : Bytes)
    (hw : WR.concat (vs.map (writeData fuel env o s)) = ⟨bs, none⟩)
    (hn : Spec.mapM' (Spec.normalize fuel env o s) vs = some nfs) :
    readItemsWith (readData fuel env {} s) vs.length (bs ++ rest) = .ok (nfs, rest) :=
  (CodecProofs.items_faithful (fun x _ => CodecProofs.write_faithful env o fuel s x) hw hn).2 rest

/-! non-vacuity: a recursive record with a union, an array, a map, an enum, a float and an omitted
    defaulted field has a defined normal form and is written successfully -/
def c01_exampleSchema : Schema :=
  .record "Node" [
    .mk "x" (.prim .long false none) none [],
    .mk "kids" (.array (.ref "Node")) none [],
    .mk "u" (.union [.prim .null false none, .prim .string false none, .prim .double false none]) none [],
    .mk "m" (.map (.prim .float false none)) (some (.dict [])) [],
    .mk "e" (.enum "E" ["A", "B"] none []) none []] []
def c01_exampleEnv : Env := [("Node", c01_exampleSchema)]
def c01_exampleValue : Val :=
  .dict [(.str "x", .int (-9223372036854775808)),
         (.str "kids", .list [.dict [(.str "x", .int 8192), (.str "kids", .list []), (.str "u", .str "é"),
                                     (.str "m", .dict [(.str "k", .int 3)]), (.str "e", .str "B")]]),
         (.str "u", .tuple [.str "double", .int 1]), (.str "e", .str "A")]

example : (Spec.normalize 6 c01_exampleEnv {} c01_exampleSchema c01_exampleValue).isSome = true ∧
    (writeData 6 c01_exampleEnv {} c01_exampleSchema c01_exampleValue).err = none := by
  decide +kernel
