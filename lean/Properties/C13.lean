/-
  Properties/C13.lean — the canonical form `to_parsing_canonical_form(parse_schema(raw))` IS the
  specification's transformation `Spec.pcf` of the raw schema (Spec/Pcf.lean: written from the
  specification's rule list, on the raw JSON value, independently of `parse_schema`), for every raw schema,
  namespace nesting and depth (`c13_eq_spec`, `c13_eq_spec_nested`, `c13_spec_stable`).  The other clauses of the
  property are then facts about `Spec.pcf`: which attributes it reads (`c13_cosmetic_*`, `c13_inherited_namespace`)
  and that it maps its own output to itself where every name reads back as the same full name (`c13_fixed_point`,
  `c13_idempotent`, at the level of JSON values: `Canon.toRaw s` is compared with `json.loads` of the implementation's
  text on every harness case).
  Tested, not proved (harness props/c13.py): `json.loads` itself, and the same-encoding clause, which runs through the
  binary codec.
-/
import Proofs.CanonFixed

open Parse

/-- **C13 (equality with the specification).** whenever `parse_schema` accepts a raw schema, the canonical form of what it
    returns is the specification's transformation of the raw schema -/
theorem c13_eq_spec (fuel : Nat) (raw : Val) (env env' : Env) (ign : Bool) (s : Schema)
    (h : parseTop fuel raw env ign = .ok (s, env')) :
    Spec.pcf (fuel+1) raw "" = some (Canon.canon s) :=
  CanonProofs.parseTop_pcf h

/-- nested position: the same statement for a schema parsed inside namespace `ns` -/
theorem c13_eq_spec_nested (fuel : Nat) (raw : Val) (ns : String) (st st' : St) (dflt : Option Val) (ign : Bool) (s : Schema)
    (h : parse fuel raw ns st dflt ign = .ok (s, st')) :
    Spec.pcf fuel raw ns = some (Canon.canon s) :=
  CanonProofs.parse_pcf fuel h

/-- the depth bound is immaterial -/
theorem c13_spec_stable (fuel : Nat) (raw : Val) (ns t : String) (h : Spec.pcf fuel raw ns = some t) :
    Spec.pcf (fuel+1) raw ns = some t :=
  (Spec.pcf_mono fuel raw ns).some h

def C13_KEPT : List String := ["type", "name", "namespace", "fields", "symbols", "items", "values", "size"]

/-- **C13 (cosmetic edits of a field).** Only a field's name and type reach the canonical form. -/
theorem c13_cosmetic_field (f : Val → Option String) (kv kv' : List (Val × Val))
    (hn : dictGetV kv "name" = dictGetV kv' "name") (ht : dictGetV kv "type" = dictGetV kv' "type") :
    Spec.fieldTextWith f (.dict kv) = Spec.fieldTextWith f (.dict kv') := by
  simp only [Spec.fieldTextWith, hn, ht]

def C13_KEPT_BODY : List String := ["type", "fields", "symbols", "items", "values", "size"]

/-- **C13 (namespace + name versus dotted name, inherited versus spelled-out namespace).** The name attributes reach
    the canonical form only through the full name and the namespace they put in effect for nested types: two type
    definitions with the same `Spec.fullNameOf` and the same kept attributes have the same canonical form. -/
theorem c13_cosmetic_name (fuel : Nat) (kv kv' : List (Val × Val)) (ns : String)
    (hname : Spec.fullNameOf kv ns = Spec.fullNameOf kv' ns)
    (h : ∀ k ∈ C13_KEPT_BODY, dictGetV kv k = dictGetV kv' k) :
    Spec.pcf fuel (.dict kv) ns = Spec.pcf fuel (.dict kv') ns := by
  have hf : dictListOr kv "fields" = dictListOr kv' "fields" := by rw [dictListOr, dictListOr, h "fields" (by decide)]
  cases fuel with
  | zero => rfl
  | succ fuel =>
    rw [Spec.pcf, Spec.pcf, h "type" (by decide), h "items" (by decide), h "values" (by decide), h "symbols" (by decide),
      h "size" (by decide), hf, hname]

/-- **C13 (cosmetic edits of a type).** Two type definitions that agree on the attributes the
    specification keeps (and on `namespace`, which determines the full name) have the same canonical
    form — whatever else (doc, aliases, default, order, logicalType, custom attributes, attribute
    order) differs. -/
theorem c13_cosmetic_type (fuel : Nat) (kv kv' : List (Val × Val)) (ns : String)
    (h : ∀ k ∈ C13_KEPT, dictGetV kv k = dictGetV kv' k) :
    Spec.pcf fuel (.dict kv) ns = Spec.pcf fuel (.dict kv') ns :=
  c13_cosmetic_name fuel kv kv' ns (by rw [Spec.fullNameOf, Spec.fullNameOf, h "name" (by decide), h "namespace" (by decide)])
    fun k hk => h k ((by decide : ∀ k ∈ C13_KEPT_BODY, k ∈ C13_KEPT) k hk)

/-- spelling out the namespace a type would inherit anyway changes nothing -/
theorem c13_inherited_namespace (kv kv' : List (Val × Val)) (ns : String)
    (hn : dictGetV kv "name" = dictGetV kv' "name")
    (h0 : dictGetV kv "namespace" = none) (h1 : dictGetV kv' "namespace" = some (.str ns)) :
    Spec.fullNameOf kv ns = Spec.fullNameOf kv' ns := by
  simp only [Spec.fullNameOf, hn, h0, h1]

/- `{"namespace": "a.b", "name": "R"}` and `{"name": "a.b.R"}` have the same full name and put the same namespace
   in effect (`#guard`, here and below: compiled evaluation, the kernel cannot unfold `contains`/`splitOn`) -/
#guard Spec.fullNameOf [(.str "name", .str "R"), (.str "namespace", .str "a.b")] "x" ==
       Spec.fullNameOf [(.str "name", .str "a.b.R")] "x"

/-! non-vacuity of `c13_eq_spec`: a schema with inherited, explicit and dotted names, a reference and a cosmetic attribute -/
def c13sample : Val := .dict [(.str "type", .str "record"), (.str "name", .str "R"), (.str "namespace", .str "a.b"),
  (.str "doc", .str "x"),
  (.str "fields", .list [
    .dict [(.str "name", .str "f"), (.str "type", .dict [(.str "type", .str "enum"), (.str "name", .str "E"),
        (.str "symbols", .list [.str "A", .str "B"])]), (.str "doc", .str "y")],
    .dict [(.str "name", .str "g"), (.str "type", .list [.str "null", .str "E", .str "a.b.R"])]])]

#guard (match parseTop 10 c13sample [] with
    | .ok (s, _) => Canon.canon s == "{\"name\":\"a.b.R\",\"type\":\"record\",\"fields\":[{\"name\":\"f\",\"type\":{\"name\":\"a.b.E\",\"type\":\"enum\",\"symbols\":[\"A\",\"B\"]}},{\"name\":\"g\",\"type\":[\"null\",\"a.b.E\",\"a.b.R\"]}]}"
    | _ => false)

open Canon CanonProofs

/-- **C13 (fixed point).** The canonical text of a parsed schema denotes the JSON value `Canon.toRaw s`; the
    specification's transformation applied to THAT value gives the same text again — provided every name reads back,
    in the namespace context the canonical form gives it, as the same full name (`inScope`: a name without a dot only
    where no namespace is in effect; finding F18 is the other case) -/
theorem c13_fixed_point (s : Schema) (ns : String) (hs : inScope ns s = true) :
    Spec.pcf (depth s) (toRaw s) ns = some (canon s) :=
  fp_all (depth s) s ns hs (Nat.le_refl _)

/-- ... hence the transformation is idempotent on whatever `parse_schema` accepts: transforming the canonical form of
    `raw` gives the canonical form of `raw` -/
theorem c13_idempotent (fuel : Nat) (raw : Val) (env env' : Env) (ign : Bool) (s : Schema)
    (h : parseTop fuel raw env ign = .ok (s, env')) (hs : inScope "" s = true) :
    Spec.pcf (depth s) (toRaw s) "" = Spec.pcf (fuel+1) raw "" := by
  rw [c13_fixed_point s "" hs, c13_eq_spec fuel raw env env' ign s h]

/-! F18 as an evaluation: a type reset to the null namespace inside a namespaced record — its name has no dot, reading the
    canonical form back puts it into the enclosing namespace, and the fixed point fails; `inScope` is exactly what
    excludes it -/
def c13f18 : Schema := .record "ns.R" [.mk "e" (.enum "X" ["A"] none []) none []] []
#guard inScope "" c13f18 == false
#guard Spec.pcf 4 (toRaw c13f18) "" == some "{\"name\":\"ns.R\",\"type\":\"record\",\"fields\":[{\"name\":\"e\",\"type\":{\"name\":\"ns.X\",\"type\":\"enum\",\"symbols\":[\"A\"]}}]}"
#guard canon c13f18 == "{\"name\":\"ns.R\",\"type\":\"record\",\"fields\":[{\"name\":\"e\",\"type\":{\"name\":\"X\",\"type\":\"enum\",\"symbols\":[\"A\"]}}]}"

/-! non-vacuity: a record in a namespace holding a nested record, an enum and a by-name reference -/
def c13fp : Schema := .record "a.b.R" [.mk "x" (.record "a.b.In" [.mk "e" (.enum "c.E" ["A", "B"] none []) none []] []) none [],
  .mk "again" (.union [.prim .null false none, .ref "c.E"]) none [], .mk "f" (.array (.fixed "a.F" 4 none [])) none []] []
#guard inScope "" c13fp
#guard Spec.pcf (depth c13fp) (toRaw c13fp) "" == some (canon c13fp)
