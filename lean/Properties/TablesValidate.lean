/-
  Properties/TablesValidate.lean — the integer bounds and the validator dispatch (Gen/Tables.lean).  Built by the check of
  C10 and by no other.
-/
import Properties.TablesCommon
import Model.Validate
namespace Tables

/-- `int_bounds` of TablesCodec again: the check of C10 builds this file and not that one -/
theorem int_bounds_v :
    int? "const.INT_MIN_VALUE" = some Validate.INT_MIN ∧ int? "const.INT_MAX_VALUE" = some Validate.INT_MAX ∧
    int? "const.LONG_MIN_VALUE" = some Validate.LONG_MIN ∧ int? "const.LONG_MAX_VALUE" = some Validate.LONG_MAX := by
  decide +kernel

theorem validators_dispatch :
    disp? "_validation_py.VALIDATORS" "null" = some "_validate_null" ∧
    disp? "_validation_py.VALIDATORS" "boolean" = some "_validate_boolean" ∧
    disp? "_validation_py.VALIDATORS" "string" = some "_validate_string" ∧
    disp? "_validation_py.VALIDATORS" "int" = some "_validate_int" ∧
    disp? "_validation_py.VALIDATORS" "long" = some "_validate_long" ∧
    disp? "_validation_py.VALIDATORS" "float" = some "_validate_float" ∧
    disp? "_validation_py.VALIDATORS" "double" = some "_validate_float" ∧
    disp? "_validation_py.VALIDATORS" "bytes" = some "_validate_bytes" ∧
    disp? "_validation_py.VALIDATORS" "fixed" = some "_validate_fixed" ∧
    disp? "_validation_py.VALIDATORS" "enum" = some "_validate_enum" ∧
    disp? "_validation_py.VALIDATORS" "array" = some "_validate_array" ∧
    disp? "_validation_py.VALIDATORS" "map" = some "_validate_map" ∧
    disp? "_validation_py.VALIDATORS" "union" = some "_validate_union" ∧
    disp? "_validation_py.VALIDATORS" "record" = some "_validate_record" := by
  decide +kernel

end Tables
