/-
  Properties/TablesResolve.lean — the promotion pairs `match_types` accepts, `maybe_promote` tabulated over its decision
  domain, the type-name sets and the reader/skip dispatch tables (Gen/Tables.lean).  Built by the check of C08 and by no
  other.
-/
import Properties.TablesCommon
import Model.Resolve

namespace Tables

theorem resolve_tables :
    Gen.promotions = Resolve.PROMOTIONS ∧
    Gen.promoteOps.all (fun (w, r, op) => Resolve.promoteOp w r == op) = true ∧
    Gen.promoteOps.length = 49 ∧
    strSet? "const.NAMED_TYPES" = some Resolve.NAMED_TYPES ∧
    strSet? "const.AVRO_TYPES" = some Resolve.AVRO_TYPES := by
  decide +kernel

theorem resolve_dispatch :
    (Gen.dispatch.lookup "_read_py.READERS").map (·.map Prod.fst) = (Gen.dispatch.lookup "_read_py.SKIPS").map (·.map Prod.fst) ∧
    ((Gen.dispatch.lookup "_read_py.READERS").getD []).lookup "record" = some "read_record" ∧
    ((Gen.dispatch.lookup "_read_py.READERS").getD []).lookup "enum" = some "read_enum" ∧
    ((Gen.dispatch.lookup "_read_py.READERS").getD []).lookup "union" = some "read_union" ∧
    ((Gen.dispatch.lookup "_read_py.READERS").getD []).lookup "array" = some "read_array" ∧
    ((Gen.dispatch.lookup "_read_py.READERS").getD []).lookup "map" = some "read_map" ∧
    ((Gen.dispatch.lookup "_read_py.READERS").getD []).lookup "fixed" = some "read_fixed" := by
  decide +kernel

end Tables
