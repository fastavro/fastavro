/-
  Properties/C16.lean — logical types use the specification's representation and round-trip over
  their whole domain. (UUID: `str(uuid)` / `uuid.UUID(str)` are standard library calls; the model is an
  identity on 128-bit values and is only tied by correspondence.)
-/
import Proofs.Logical

open Logical LogicalProofs

/-- dates: every date from 0001-01-01 (ordinal 1) to 9999-12-31 (ordinal 3652059) is stored as days
    from 1970-01-01, fits an `int`, and reads back unchanged -/
theorem c16_date (o : Int) (h : 1 ≤ o ∧ o ≤ 3652059) :
    prepareDate (.date o) = .ok (.int (o - 719163)) ∧ readDate (o - 719163) = .ok (.date o) ∧
    (-2147483648 ≤ o - 719163 ∧ o - 719163 ≤ 2147483647) :=
  ⟨rfl, readDate_ok o h, by omega⟩

/-- time-millis: every µs of the day is stored as whole milliseconds after midnight and reads back
    truncated to the millisecond -/
theorem c16_time_millis (us : Nat) (h : us < 86400000000) :
    prepareTimeMillis (.time us) = .ok (.int ((us / 1000 : Nat) : Int)) ∧
    readTimeMillis ((us / 1000 : Nat) : Int) = .ok (.time (us / 1000 * 1000)) := by
  refine ⟨prepareTimeMillis_time us, ?_⟩
  rw [readTimeMillis_ok _ (Int.natCast_nonneg _) (by omega)]
  congr 2

/-- time-micros: every µs of the day is stored as it is and reads back unchanged -/
theorem c16_time_micros (us : Nat) (h : us < 86400000000) :
    prepareTimeMicros (.time us) = .ok (.int (us : Int)) ∧ readTimeMicros (us : Int) = .ok (.time us) :=
  ⟨prepareTimeMicros_time us, by rw [readTimeMicros_ok _ (Int.natCast_nonneg _) (by omega)]; rfl⟩

/-- timestamp-millis (and the local variant): every instant of the datetime range, before or after
    the epoch, is stored as ⌊µs/1000⌋ (floor) and reads back as that millisecond -/
theorem c16_timestamp_millis (us : Int) (aware : Bool) (h : DT_MIN_US ≤ us ∧ us ≤ DT_MAX_US) :
    prepareTimestampMillis (.datetime us aware) = .ok (.int (us / 1000)) ∧
    readTimestamp aware (us / 1000 * 1000) = .ok (.datetime (us / 1000 * 1000) aware) ∧
    us - 999 ≤ us / 1000 * 1000 ∧ us / 1000 * 1000 ≤ us := by
  refine ⟨prepareTimestampMillis_datetime us aware, readTimestamp_ok aware _ ?_, by omega, by omega⟩
  unfold DT_MIN_US DT_MAX_US at *
  omega

/-- timestamp-micros (and the local variant): every instant of the datetime range is stored as its µs since the epoch and
    reads back unchanged -/
theorem c16_timestamp_micros (us : Int) (aware : Bool) (h : DT_MIN_US ≤ us ∧ us ≤ DT_MAX_US) :
    prepareTimestampMicros (.datetime us aware) = .ok (.int us) ∧
    readTimestamp aware us = .ok (.datetime us aware) :=
  ⟨prepareTimestampMicros_datetime us aware, readTimestamp_ok aware us h⟩

/-- `int.from_bytes(n.to_bytes(len, 'big', signed=True), 'big', signed=True) == n` -/
theorem c16_twos_complement (len : Nat) (n : Int) (b : Bytes) (h : Py.toBytesBESigned len n = some b) :
    Py.fromBytesBESigned b = n ∧ b.length = len := by
  unfold Py.toBytesBESigned at h
  by_cases hl : len = 0
  · subst hl
    simp only [↓reduceIte] at h
    split at h
    · cases h; subst_vars; exact ⟨rfl, rfl⟩
    · cases h
  · have hsplit : 2 ^ (8 * len) = 2 * 2 ^ (8 * len - 1) := by rw [← Nat.pow_succ']; congr 1; omega
    simp only [hl, ↓reduceIte] at h
    -- outside `to_bytes`' range `h` is `none = some b`; inside, `b = toBytesBE len m`, and of the two branches of
    -- `fromBytesBESigned_toBytesBE` one gives back `n` and the other contradicts the range
    split at h
    · -- `n ≥ 0`: `m = n`, below the sign bit
      split at h <;> cases h
      refine ⟨?_, Py.toBytesBE_length _ _⟩
      rw [Py.fromBytesBESigned_toBytesBE _ _ hl (by omega)]
      split <;> omega
    · -- `n < 0`: `m = 2 ^ (8 * len) + n`, at or above the sign bit
      split at h <;> cases h
      refine ⟨?_, Py.toBytesBE_length _ _⟩
      rw [Py.fromBytesBESigned_toBytesBE _ _ hl (by omega)]
      split <;> omega

/-- bytes decimal: accepted ⇒ the bytes are a big-endian two's complement of exactly the unscaled
    integer, and the digit-count and scale guards held -/
theorem c16_bytes_decimal (lt : LogT) (sign : Bool) (digits : List Nat) (exp : Int) (v : Val)
    (h : prepareBytesDecimal lt (.decimal sign digits exp) = .ok v) :
    ∃ b p, v = .bytes b ∧ lt.precision = some p ∧ (digits.length : Int) ≤ p ∧ 0 ≤ exp + lt.scale ∧
      Py.fromBytesBESigned b = signedUnscaled sign (10 ^ (exp + lt.scale).toNat * digitsToNat digits) := by
  rw [prepareBytesDecimal_eq] at h
  split at h
  · cases h
  rename_i p hp
  split at h
  · cases h
  rename_i hg
  split at h
  · rename_i b hb
    cases h
    exact ⟨b, p, rfl, hp, by omega, by omega, (c16_twos_complement _ _ _ hb).1⟩
  · cases h

/-- fixed decimal: accepted ⇒ exactly `size` bytes, the sign-extended two's complement of exactly the
    unscaled integer (negative zero ↦ zero) -/
theorem c16_fixed_decimal (lt : LogT) (size : Nat) (sign : Bool) (digits : List Nat) (exp : Int) (v : Val)
    (h : prepareFixedDecimal lt size (.decimal sign digits exp) = .ok v) :
    ∃ b p, v = .bytes b ∧ b.length = size ∧ lt.precision = some p ∧ (digits.length : Int) ≤ p ∧
      -exp ≤ lt.scale ∧
      Py.fromBytesBESigned b = signedUnscaled sign (digitsToNat (paddedDigits digits exp lt.scale)) := by
  rw [prepareFixedDecimal_eq] at h
  split at h
  · cases h
  rename_i p hp
  split at h
  · cases h
  rename_i hg
  split at h
  · rename_i b hb
    cases h
    obtain ⟨h3, h4⟩ := c16_twos_complement _ _ _ hb
    exact ⟨b, p, rfl, h4, hp, by omega, by omega, h3⟩
  · cases h

/-- a decimal is never stored as a different number: too many digits, too many fractional digits or a
    value outside the fixed size's range is an error (ValueError), not a stored value -/
theorem c16_decimal_never_other_number (lt : LogT) (p : Int) (hp : lt.precision = some p)
    (sign : Bool) (digits : List Nat) (exp : Int) :
    ((digits.length : Int) > p →
        prepareBytesDecimal lt (.decimal sign digits exp) = .error .value ∧
        ∀ size, prepareFixedDecimal lt size (.decimal sign digits exp) = .error .value) ∧
    (exp + lt.scale < 0 →
        (¬ (digits.length : Int) > p → prepareBytesDecimal lt (.decimal sign digits exp) = .error .value) ∧
        ∀ size, ¬ (digits.length : Int) > p →
          prepareFixedDecimal lt size (.decimal sign digits exp) = .error .value) := by
  simp only [prepareBytesDecimal_eq, prepareFixedDecimal_eq, hp]
  refine ⟨fun h => ⟨if_pos (.inl h), fun size => if_pos (.inl h)⟩,
    fun h => ⟨fun _ => if_pos (.inr h), fun size _ => if_pos (.inr (.inl (by omega)))⟩⟩

/-! non-vacuity: `prepareFixedDecimal` accepts and rejects, at the edges of its range test -/
example : (match prepareFixedDecimal { name := "decimal", precision := some 4, scale := 2 } 2 (.decimal true [0] 0) with
    | .ok (.bytes [0, 0]) => true | _ => false) = true := by decide +kernel      -- negative zero is zero
example : (match prepareFixedDecimal { name := "decimal", precision := some 2, scale := 0 } 1 (.decimal true [4, 7] 1) with
    | .error .value => true | _ => false) = true := by decide +kernel            -- −470 does not fit one byte
example : (match prepareFixedDecimal { name := "decimal", precision := some 3, scale := 0 } 1 (.decimal true [1, 2, 8] 0) with
    | .ok (.bytes [0x80]) => true | _ => false) = true := by decide +kernel      -- −128, the most negative value
