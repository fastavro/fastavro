/-
  Properties/C03.lean — the decoder accepts every specification-valid encoding (any partition of
  arrays and maps into blocks, positive-count and negative-count-plus-byte-size forms, any nesting),
  both when the value is returned and when it is skipped; out-of-range indices and truncated input
  are errors.
-/
import Proofs.Accept
import Proofs.Stable

open Binary Spec

/-- **C03 (accept).** every `Spec.Enc`-valid encoding of `v` is decoded to `v`, and the reader stops
    exactly at its end (`rest` untouched), given enough nesting budget -/
theorem c03_accept (env : Env) (s : Schema) (v : Val) (bs rest : Bytes) (h : Enc env s v bs) :
    ∃ g, ∀ f, g ≤ f → readData f env {} s (bs ++ rest) = .ok (v, rest) :=
  (AcceptProofs.acceptE h).mono fun _ hf => hf rest

/-- **C03 (skip).** the same encodings are skipped exactly (writer-only fields during resolution) -/
theorem c03_skip (env : Env) (s : Schema) (v : Val) (bs rest : Bytes) (h : Enc env s v bs) :
    ∃ g, ∀ f, g ≤ f → skipData f env s (bs ++ rest) = .ok rest :=
  (AcceptProofs.acceptE h).mono fun f hf => (ReadSkip.readData_skip env {} f s _).ok_of_ok (hf rest)

/-- reads are length-checked and left-to-right: a successful read never looks past what it consumes -/
theorem c03_read_extend (env : Env) (ro : ROpts) (f : Nat) (s : Schema) (p q : Bytes) (v : Val) (r : Bytes)
    (h : readData f env ro s p = .ok (v, r)) : readData f env ro s (p ++ q) = .ok (v, r ++ q) :=
  Stable.readData_ext env ro f s p v r q h

/-- skips are length-checked too: a successful skip never looks past what it consumes -/
theorem c03_skip_extend (env : Env) (f : Nat) (s : Schema) (p q r : Bytes)
    (h : skipData f env s p = .ok r) : skipData f env s (p ++ q) = .ok (r ++ q) :=
  Stable.skipData_ext env f s p r q h

/-- **C03 (truncation).** no proper prefix of a valid encoding decodes to a value, whatever the budget -/
theorem c03_prefix (env : Env) (s : Schema) (v : Val) (p q : Bytes) (h : Enc env s v (p ++ q)) (hq : q ≠ []) :
    ∀ f v' r', readData f env {} s p ≠ .ok (v', r') := by
  intro f v' r' hp
  obtain ⟨g, hg⟩ := c03_accept env s v _ [] h
  rw [List.append_nil] at hg
  -- under the larger budget the read of `p ++ q` leaves `q` after whatever that of `p` leaves, and leaves nothing by `hg`
  obtain ⟨e, he⟩ := Stable.prefix_free (Stable.readData_stable (.refl env) {} q f (max f g) (Nat.le_max_left ..) s p)
    (hg _ (Nat.le_max_right ..)) hq
  cases he.symm.trans hp

/-- **C03 (truncation, skipped values).** no proper prefix of a valid encoding can be *skipped* either (a value
    dropped during schema resolution): the decoder raises, it never hands back a shorter stream -/
theorem c03_skip_prefix (env : Env) (s : Schema) (v : Val) (p q : Bytes) (h : Enc env s v (p ++ q)) (hq : q ≠ []) :
    ∀ f r', skipData f env s p ≠ .ok r' := by
  intro f r' hp
  obtain ⟨g, hg⟩ := c03_skip env s v _ [] h
  rw [List.append_nil] at hg
  obtain ⟨e, he⟩ := Stable.prefix_freeS (Stable.skipData_stable (.refl env) q f (max f g) (Nat.le_max_left ..) s p)
    (hg _ (Nat.le_max_right ..)) hq
  cases he.symm.trans hp

/-- **C03 (indices).** a union branch index or enum index outside the schema's range — negative, or
    not below the number of branches / symbols — is an error, when reading and when skipping -/
theorem c03_bad_index (env : Env) (ro : ROpts) (f : Nat) (bs rest : Bytes) (i : Int)
    (hd : decodeLong bs = .ok (i, rest)) :
    (∀ branches : List Schema, (i < 0 ∨ (branches.length : Int) ≤ i) →
        readData (f + 1) env ro (.union branches) bs = .error .index ∧
        skipData (f + 1) env (.union branches) bs = .error .index) ∧
    (∀ name syms d al, (i < 0 ∨ ((syms : List String).length : Int) ≤ i) →
        readData (f + 1) env ro (.enum name syms d al) bs = .error .index) := by
  refine ⟨fun branches h => ⟨?_, ?_⟩, fun name syms d al h => ?_⟩
  · simp only [readData, hd, bind, Except.bind]; rw [indexChecked_eq_none h]; rfl
  · simp only [skipData, hd, bind, Except.bind]; rw [indexChecked_eq_none h]; rfl
  · simp only [readData, hd, bind, Except.bind]; rw [indexChecked_eq_none h]; rfl

/-! non-vacuity: `[3, 27]` as `array<long>` in two blocks — one negative-count block with a byte size,
    one positive-count block — is a valid encoding, and the reader returns the list -/
example : ∃ bs, Enc [] (.array (.prim .long false none)) (.list [.int 3, .int 27]) bs ∧
    bs = [0x01, 0x02, 0x06, 0x02, 0x36, 0x00] := by
  have i64 {n : Int} (h : -(2:Int)^63 ≤ n ∧ n < 2^63) : I64 n := h
  exact ⟨_, .array (i64 (by decide)) (.neg (xs := [.int 3]) (ys := [.int 27]) 1 (i64 (by decide)) (by simp) (by decide)
    (.cons (.prim (df := false) (.long 3 (i64 (by decide)))) .nil) (i64 (by decide))
    (.pos (xs := [.int 27]) (ys := []) (by simp) (by decide)
      (.cons (.prim (df := false) (.long 27 (i64 (by decide)))) .nil) (i64 (by decide)) .done)), by decide +kernel⟩

example : (match readData 3 [] {} (.array (.prim .long false none)) [0x01, 0x02, 0x06, 0x02, 0x36, 0x00, 0xAA] with
    | .ok (.list [.int 3, .int 27], [0xAA]) => true
    | _ => false) = true := by decide +kernel
