/-
  Properties/C11.lean — `parse_schema` names types per the specification and rejects ill-formed schemas.

  Naming: `c11_names`, `c11_reference_resolves`.
  Rejection: one theorem per rule of the property, each at the level where the rule applies, and
  `c11_error_propagates_*`: an error raised at any child position (union branch, array items, map
  values, record field — after the siblings before it parsed) is the error of the parent.  By
  induction on the path, a rule that fires at a node fires for the whole schema, at every depth.
  Acceptance of valid schemas is a statement about the generator's notion of "valid"; it is checked
  by the harness (model and implementation accept the same schemas), not proved.
-/
import Proofs.Canon
import Proofs.Reject

open Parse RejectProofs

/-- **C11 (names).** whatever the parser accepts, every named type carries the full name given by the specification's
    namespace rules and every reference is spelled with the full name it denotes — stated through the canonical text,
    which spells exactly those names (`Spec.fullNameOf`, `Spec.refName`) at every position of the tree -/
theorem c11_names (fuel : Nat) (raw : Val) (env env' : Env) (ign : Bool) (s : Schema)
    (h : parseTop fuel raw env ign = .ok (s, env')) :
    Spec.pcf (fuel+1) raw "" = some (Canon.canon s) :=
  CanonProofs.parseTop_pcf h

/-- an accepted by-name reference is spelled with the specification's full name and denotes an entry
    of the named-schema table -/
theorem c11_reference_resolves (name ns : String) (st st' : St) (dflt : Option Val) (ign : Bool) (s : Schema)
    (hp : Prim.ofName? name = none) (h : parseName name ns st dflt ign = .ok (s, st')) :
    s = .ref (Spec.refName name ns) ∧ (st.env.get? (Spec.refName name ns)).isSome = true := by
  rcases (parseName_ok h).2 with ⟨p, hp', _⟩ | ⟨_, hs, hd⟩
  · rw [hp] at hp'; cases hp'
  · exact ⟨hs, hd⟩

/-- **C11 (undefined reference).** a name that is not a primitive's and, qualified by the enclosing namespace, is not in
    the named-schema table is rejected (UnknownType) -/
theorem c11_reject_undefined (fuel : Nat) (name ns : String) (st : St) (dflt : Option Val) (ign : Bool)
    (hp : Prim.ofName? name = none) (hu : st.env.get? (Spec.refName name ns) = none) :
    parse (fuel+1) (.str name) ns st dflt ign = .error .unknownType := by
  rw [parse]; exact undefined_ref hp hu

/-- **C11 (a name defined twice).** A definition whose full name is already in the per-parse name
    set is rejected … -/
theorem c11_reject_redefined (fuel : Nat) (kv : List (Val × Val)) (ns ns' full ty : String) (st : St) (dflt : Option Val)
    (ign : Bool) (lt : Option LogT)
    (hty : dictType kv = .ok ty) (hl : parseLogical kv (ty == "fixed") = .ok lt)
    (hnamed : ty = "enum" ∨ ty = "fixed" ∨ ty = "record")
    (hn : schemaName kv ns = .ok (ns', full)) (hd : st.names.contains full = true) :
    parse (fuel+1) (.dict kv) ns st dflt ign = .error .parse := by
  rcases hnamed with rfl | rfl | rfl
  · rw [route_enum hty hl]; exact redefined_enum hn hd
  · rw [route_fixed hty hl]; exact redefined_fixed hn hd
  · rw [route_record hty hl]; exact redefined_record hn hd

/-- … every accepted definition puts its full name into that set … -/
theorem c11_definition_registers (fuel : Nat) (kv : List (Val × Val)) (ns ty : String) (st st' : St) (dflt : Option Val)
    (ign : Bool) (lt : Option LogT) (s : Schema)
    (hty : dictType kv = .ok ty) (hl : parseLogical kv (ty == "fixed") = .ok lt)
    (hnamed : ty = "enum" ∨ ty = "fixed" ∨ ty = "record")
    (h : parse (fuel+1) (.dict kv) ns st dflt ign = .ok (s, st')) :
    ∃ ns' full, schemaName kv ns = .ok (ns', full) ∧ st.names.contains full = false ∧ full ∈ st'.names :=
  have ⟨ns', full, h1, h2, h3, _⟩ := definition_ok hty hl hnamed h
  ⟨ns', full, h1, h2, h3⟩

/-- … and the set only grows while the rest of the schema is parsed: the second definition of a name,
    wherever it comes later in the tree, meets `c11_reject_redefined`. -/
theorem c11_names_only_grow (fuel : Nat) (raw : Val) (ns : String) (st st' : St) (dflt : Option Val) (ign : Bool) (s : Schema)
    (h : parse fuel raw ns st dflt ign = .ok (s, st')) : ∀ n, n ∈ st.names → n ∈ st'.names :=
  fun _ => names_mono h

/-- **the named-schema table holds named-type definitions, each under its own full name** — whatever
    raw schema is parsed, at any depth; this discharges the table hypotheses of C08 (`EnvWF.named`) and
    C15 (`JsonBack.EnvNamed`) for every table `parse_schema` builds -/
theorem c11_table_holds_definitions (fuel : Nat) (raw : Val) (env env' : Env) (ign : Bool) (s : Schema)
    (h : parseTop fuel raw env ign = .ok (s, env'))
    (hi : ∀ n d, env.get? n = some d → d.isNamedDef = true ∧ d.defName? = some n) :
    ∀ n d, env'.get? n = some d → d.isNamedDef = true ∧ d.defName? = some n :=
  EnvInv.parseTop_inv EnvInv.EnvNamedI EnvInv.set_named h hi

/-- **C11 (named type without a name).** an enum, fixed or record without a `name` attribute is rejected -/
theorem c11_reject_unnamed (fuel : Nat) (kv : List (Val × Val)) (ns ty : String) (st : St) (dflt : Option Val)
    (ign : Bool) (lt : Option LogT)
    (hty : dictType kv = .ok ty) (hl : parseLogical kv (ty == "fixed") = .ok lt)
    (hnamed : ty = "enum" ∨ ty = "fixed" ∨ ty = "record")
    (h : dictGetV kv "name" = none) :
    parse (fuel+1) (.dict kv) ns st dflt ign = .error .parse := by
  rcases hnamed with rfl | rfl | rfl
  · rw [route_enum hty hl, parseEnum, unnamed kv ns h]; rfl
  · rw [route_fixed hty hl, parseFixed, unnamed kv ns h]; rfl
  · rw [route_record hty hl, parseRecord, unnamed kv ns h]; rfl

/-- **C11 (enum symbols).** an enum with a symbol that is not a name, or with the same symbol twice, is rejected … -/
theorem c11_reject_symbols (fuel : Nat) (kv : List (Val × Val)) (ns ns' full : String) (st : St) (dflt : Option Val)
    (ign : Bool) (lt : Option LogT) (symsL : List Val)
    (hty : dictType kv = .ok "enum") (hl : parseLogical kv false = .ok lt)
    (hn : schemaName kv ns = .ok (ns', full)) (hc : st.names.contains full = false)
    (hs : dictGetV kv "symbols" = some (.list symsL))
    (hbad : (∃ x ∈ symsL, symValOk x = false) ∨ (symNames symsL).eraseDups.length ≠ (symNames symsL).length) :
    parse (fuel+1) (.dict kv) ns st dflt ign = .error .parse := by
  rw [route_enum hty hl]
  refine enum_error hn hc ?_
  rcases hbad with ⟨x, hx, hb⟩ | hdup
  · exact bad_symbol hs hx hb
  · exact duplicate_symbol hs hdup

/-- … and so is one whose `default` is not among its symbols -/
theorem c11_reject_enum_default (fuel : Nat) (kv : List (Val × Val)) (ns ns' full : String) (st : St) (dflt : Option Val)
    (ign : Bool) (lt : Option LogT) (symsL : List Val) (d : Val)
    (hty : dictType kv = .ok "enum") (hl : parseLogical kv false = .ok lt)
    (hn : schemaName kv ns = .ok (ns', full)) (hc : st.names.contains full = false)
    (hs : dictGetV kv "symbols" = some (.list symsL)) (hd : dictGetV kv "default" = some d)
    (hout : ∀ t, d = .str t → (symNames symsL).contains t = false) :
    parse (fuel+1) (.dict kv) ns st dflt ign = .error .parse := by
  rw [route_enum hty hl]
  exact enum_error hn hc (enum_default_outside hs hd hout)

/-- **C11 (field default of the wrong JSON type)** — primitive named by a string … -/
theorem c11_reject_default_prim (fuel : Nat) (name ns : String) (st : St) (p : Prim) (d : Val)
    (hp : Prim.ofName? name = some p) (hd : defaultMatches d (.prim p false none) = false) :
    parse (fuel+1) (.str name) ns st (some d) false = .error .parse := by
  rw [parse]; exact bad_default_prim hp hd

/-- … union: no branch matches … -/
theorem c11_reject_default_union (fuel : Nat) (xs : List Val) (ns : String) (st st1 : St) (d : Val) (bs : List Schema)
    (hp : parseListWith (fun x st => parse fuel x ns st none false) xs st = .ok (bs, st1))
    (hd : bs.any (defaultMatches d) = false) :
    parse (fuel+1) (.list xs) ns st (some d) false = .error .parse := by
  simp only [parse, hp, R.ok_bind, bad_default d (fun d => bs.any (defaultMatches d)) hd, error_bind]

/-- … array: the default must be a JSON array (here and below: when everything else about the type is fine; otherwise
    another rejection applies) … -/
theorem c11_reject_default_array (fuel : Nat) (kv : List (Val × Val)) (ns : String) (st st1 : St) (lt) (d items : Val) (s : Schema)
    (hty : dictType kv = .ok "array") (hl : parseLogical kv false = .ok lt)
    (hi : getKey kv "items" = .ok items) (hp : parse fuel items ns st none false = .ok (s, st1)) (hd : isList d = false) :
    parse (fuel+1) (.dict kv) ns st (some d) false = .error .parse := by
  rw [route_array hty hl]
  simp only [parseArray, hi, R.ok_bind, hp, bad_default d _ hd, error_bind]

/-- … map: a JSON object … -/
theorem c11_reject_default_map (fuel : Nat) (kv : List (Val × Val)) (ns : String) (st st1 : St) (lt) (d values : Val) (s : Schema)
    (hty : dictType kv = .ok "map") (hl : parseLogical kv false = .ok lt)
    (hi : getKey kv "values" = .ok values) (hp : parse fuel values ns st none false = .ok (s, st1)) (hd : isDict d = false) :
    parse (fuel+1) (.dict kv) ns st (some d) false = .error .parse := by
  rw [route_map hty hl]
  simp only [parseMap, hi, R.ok_bind, hp, bad_default d _ hd, error_bind]

/-- … enum, fixed: a string; record: a JSON object. -/
theorem c11_reject_default_named (fuel : Nat) (kv : List (Val × Val)) (ns ns' full ty : String) (st : St) (lt) (d : Val)
    (hty : dictType kv = .ok ty) (hl : parseLogical kv (ty == "fixed") = .ok lt)
    (hn : schemaName kv ns = .ok (ns', full)) (hc : st.names.contains full = false)
    (hcase : (ty = "enum" ∧ (∃ r, enumSymbols kv = .ok r) ∧ isStr d = false) ∨ (ty = "fixed" ∧ isStr d = false) ∨
             (ty = "record" ∧ isDict d = false)) :
    parse (fuel+1) (.dict kv) ns st (some d) false = .error .parse := by
  rcases hcase with ⟨rfl, ⟨r, hr⟩, hd⟩ | ⟨rfl, hd⟩ | ⟨rfl, hd⟩
  · rw [route_enum hty hl]
    simp only [parseEnum, hn, R.ok_bind, hc, Bool.false_eq_true, if_false, hr, bad_default d _ hd, error_bind]
  · rw [route_fixed hty hl]
    simp only [parseFixed, hn, R.ok_bind, hc, Bool.false_eq_true, if_false, bad_default d _ hd, error_bind]
  · rw [route_record hty hl]
    simp only [parseRecord, hn, R.ok_bind, hc, Bool.false_eq_true, if_false, bad_default d _ hd, error_bind]

/-- **C11 (decimal annotations).** Scale / precision truthy but not a non-negative / positive integer;
    precision beyond what a fixed of `size` bytes holds; scale above precision. -/
theorem c11_reject_decimal (fuel : Nat) (kv : List (Val × Val)) (ns ty : String) (st : St) (dflt : Option Val) (ign : Bool)
    (hty : dictType kv = .ok ty) (hl : dictGetV kv "logicalType" = some (.str "decimal"))
    (hbad :
      (∃ v, dictGetV kv "scale" = some v ∧ truthy v = true ∧ ∀ n, asPyInt? v = some n → n < 0) ∨
      (ScaleFine (dictGetV kv "scale") ∧
        ∃ v, dictGetV kv "precision" = some v ∧ truthy v = true ∧ ∀ n, asPyInt? v = some n → n ≤ 0) ∨
      (ScaleFine (dictGetV kv "scale") ∧ ty = "fixed" ∧
        ∃ v n sz, dictGetV kv "precision" = some v ∧ truthy v = true ∧ asPyInt? v = some n ∧
          dictGetV kv "size" = some (.int sz) ∧ n > maxPrecision sz.toNat) ∨
      (ScaleFine (dictGetV kv "scale") ∧ PrecisionFine kv (dictGetV kv "precision") (ty == "fixed") ∧
        ∃ sv pv sc pr, dictGetV kv "scale" = some sv ∧ dictGetV kv "precision" = some pv ∧ truthy sv = true ∧
          truthy pv = true ∧ asPyInt? sv = some sc ∧ asPyInt? pv = some pr ∧ pr < sc)) :
    parse (fuel+1) (.dict kv) ns st dflt ign = .error .parse := by
  refine logical_error hty ?_
  rw [decimal_stage hl]
  rcases hbad with ⟨v, hs, ht, hb⟩ | ⟨hsc, v, hp, ht, hb⟩ | ⟨hsc, rfl, v, n, sz, hp, ht, hn, hsz, hbig⟩ |
      ⟨hsc, hpf, sv, pv, sc, pr, hs, hp, hts, htp, hsn, hpn, hab⟩
  · rw [hs, scaleCheck_bad ht hb]; rfl
  · rw [hsc, hp, precisionCheck_bad ht hb]; rfl
  · rw [hsc, hp, precisionCheck_beyond_size (by decide) ht hn hsz hbig]; rfl
  · rw [hsc, hpf, hs, hp, crossCheck_bad hts htp hsn hpn hab]; rfl

/-- **C11 (every depth).** An error at a child position is the error of the parent: a union branch, after the branches
    before it parsed … -/
theorem c11_error_propagates_union (fuel : Nat) (pre post : List Val) (x : Val) (ns : String) (st st1 : St) (bs : List Schema)
    (dflt : Option Val) (ign : Bool) (e : Err)
    (h1 : parseListWith (fun x st => parse fuel x ns st none ign) pre st = .ok (bs, st1))
    (h2 : parse fuel x ns st1 none ign = .error e) :
    parse (fuel+1) (.list (pre ++ x :: post)) ns st dflt ign = .error e := by
  simp only [parse, list_error h1 h2, error_bind]

/-- … the items of an array … -/
theorem c11_error_propagates_array (fuel : Nat) (kv : List (Val × Val)) (ns : String) (st : St) (dflt : Option Val) (ign : Bool) (lt)
    (items : Val) (e : Err)
    (hty : dictType kv = .ok "array") (hl : parseLogical kv false = .ok lt) (hi : getKey kv "items" = .ok items)
    (h : parse fuel items ns st none ign = .error e) :
    parse (fuel+1) (.dict kv) ns st dflt ign = .error e := by
  rw [route_array hty hl]
  simp only [parseArray, hi, R.ok_bind, h, error_bind]

/-- … the values of a map … -/
theorem c11_error_propagates_map (fuel : Nat) (kv : List (Val × Val)) (ns : String) (st : St) (dflt : Option Val) (ign : Bool) (lt)
    (values : Val) (e : Err)
    (hty : dictType kv = .ok "map") (hl : parseLogical kv false = .ok lt) (hi : getKey kv "values" = .ok values)
    (h : parse fuel values ns st none ign = .error e) :
    parse (fuel+1) (.dict kv) ns st dflt ign = .error e := by
  rw [route_map hty hl]
  simp only [parseMap, hi, R.ok_bind, h, error_bind]

/-- … the type of a record field, after the fields before it parsed. -/
theorem c11_error_propagates_field (fuel : Nat) (kv : List (Val × Val)) (ns ns' full : String) (st st1 : St) (dflt : Option Val)
    (ign : Bool) (lt) (pre post : List Val) (fkv : List (Val × Val)) (fs : List Field) (al : List String) (d : Option Val)
    (fname : String) (fty : Val) (e : Err)
    (hty : dictType kv = .ok "record") (hl : parseLogical kv false = .ok lt)
    (hn : schemaName kv ns = .ok (ns', full)) (hc : st.names.contains full = false)
    (hd : checkDefault dflt isDict ign = .ok ())
    (hf : dictListOr kv "fields" = pre ++ .dict fkv :: post)
    (hpre : parseFieldsWith (fun ty st d => parse fuel ty ns' st d ign) pre (recordSt kv full st) = .ok (fs, st1))
    (hh : fieldHeader fkv = .ok (al, d, fname, fty))
    (h : parse fuel fty ns' st1 d ign = .error e) :
    parse (fuel+1) (.dict kv) ns st dflt ign = .error e := by
  rw [route_record hty hl]
  refine record_error hn hc hd ?_
  rw [hf]; exact fields_error hh hpre h

/-- the top level adds nothing: a non-list schema rejected by `_parse_schema` is rejected by `parse_schema` -/
theorem c11_error_propagates_top (fuel : Nat) (raw : Val) (env : Env) (ign : Bool) (e : Err)
    (hnl : ∀ xs, raw ≠ .list xs) (h : parse fuel raw "" { names := [], env := env } none ign = .error e) :
    parseTop fuel raw env ign = .error e := by
  cases raw
  case list xs => exact absurd rfl (hnl xs)
  all_goals simp only [parseTop, h, error_bind]

/-! non-vacuity (`#guard`: compiled evaluation, the kernel cannot unfold `String.contains`): one ill-formed schema per
    rule, each nested inside a record field's array items -/
def c11wrap (t : Val) : Val := .dict [(.str "type", .str "record"), (.str "name", .str "R"), (.str "namespace", .str "n"),
  (.str "fields", .list [.dict [(.str "name", .str "f"), (.str "type", .dict [(.str "type", .str "array"), (.str "items", t)])]])]
def c11errOf (t : Val) : Option Err := match parseTop 10 (c11wrap t) [] with | .error e => some e | .ok _ => none
def c11enumOf (syms : List Val) (extra : List (Val × Val)) : Val :=
  .dict ([(.str "type", .str "enum"), (.str "name", .str "E"), (.str "symbols", .list syms)] ++ extra)

#guard c11errOf (.str "int") == none
#guard c11errOf (.str "Missing") == some .unknownType
#guard c11errOf (.str "R") == none
#guard c11errOf (.dict [(.str "type", .str "fixed"), (.str "name", .str "R"), (.str "size", .int 2)]) == some .parse
#guard c11errOf (.dict [(.str "type", .str "fixed"), (.str "size", .int 2)]) == some .parse
#guard c11errOf (c11enumOf [.str "A", .str "9x"] []) == some .parse
#guard c11errOf (c11enumOf [.str "A", .str "A"] []) == some .parse
#guard c11errOf (c11enumOf [.str "A"] [(.str "default", .str "B")]) == some .parse
#guard c11errOf (c11enumOf [.str "A"] [(.str "default", .str "A")]) == none
#guard c11errOf (.dict [(.str "type", .str "bytes"), (.str "logicalType", .str "decimal"), (.str "precision", .int (-3))]) == some .parse
#guard c11errOf (.dict [(.str "type", .str "bytes"), (.str "logicalType", .str "decimal"), (.str "precision", .int 3), (.str "scale", .int 4)]) == some .parse
#guard c11errOf (.dict [(.str "type", .str "fixed"), (.str "name", .str "F"), (.str "size", .int 1), (.str "logicalType", .str "decimal"), (.str "precision", .int 3)]) == some .parse
#guard c11errOf (.dict [(.str "type", .str "fixed"), (.str "name", .str "F"), (.str "size", .int 1), (.str "logicalType", .str "decimal"), (.str "precision", .int 2)]) == none
#guard (match parseTop 10 (.dict [(.str "type", .str "record"), (.str "name", .str "R"), (.str "fields", .list [
    .dict [(.str "name", .str "f"), (.str "type", .str "int"), (.str "default", .str "1")]])]) [] with
  | .error .parse => true | _ => false)
