/-
  Properties/C10.lean — validate accepts exactly conforming data and agrees with the writers' gate.
  (That accepted data is encoded and round-trips is C01/C02: their hypothesis "the normal form is defined"
  is the same conformance notion; the float-width caveat is the property's own.)
-/
import Proofs.Validate
import Model.Container

open Validate ValidateProofs

/-- **C10 (exactly the conforming data).** for every schema without logical-type annotations (those
    are C16), `validate(…, raise_errors=False)` returns exactly `Spec.conforms` — the documented mapping —
    for every datum, `strict` and `disable_tuple_notation` setting, at every nesting depth -/
theorem c10_validate_eq_conforms (env : Env) (o : VOpts) (henv : env.plain = true) (fuel : Nat) (field : String)
    (s : Schema) (v : Val) (b : Bool) (hs : s.plain = true)
    (h : validate fuel env o false field s (some v) = .ok b) :
    Spec.conforms fuel env o.strict o.disableTuple s v = b :=
  validate_eq_conforms henv hs h

/-- **C10 (raising mode).** `raise_errors=True` raises `ValidationError` in precisely the cases where
    the non-raising mode returns `False`, and returns `True` in precisely the cases where it returns `True` -/
theorem c10_raise_iff (env : Env) (o : VOpts) (henv : env.plain = true) (fuel : Nat) (field : String) (s : Schema)
    (d : Option Val) (hs : s.plain = true) :
    (validate fuel env o true field s d = .error .validation ↔ validate fuel env o false field s d = .ok false) ∧
    (validate fuel env o true field s d = .ok true ↔ validate fuel env o false field s d = .ok true) := by
  rw [validate_raise_eq]
  have hnv := (validate_answers env o henv fuel field s d hs).ne
  generalize validate fuel env o false field s d = r at hnv ⊢
  cases r with
  | error e => simpa [lift] using hnv
  | ok b => cases b <;> simp [lift]

/-- **C10 (strict).** in strict mode a record lacking a field that has no default is rejected, even
    when the field's type accepts null -/
theorem c10_strict (env : Env) (fuel : Nat) (field : String) (s : Schema) (dtn : Bool) :
    validate (fuel + 1) env { strict := true, disableTuple := dtn } false field s none = .ok false := rfl

/-- **C10 (writer gate).** a writer with validation enabled rejects everything `validate` rejects
    before emitting any byte of that record: its state is unchanged -/
theorem c10_gate (enc : Val → WR) (validate' : Val → R Bool) (cfg : Container.WCfg) (st : Container.WState) (v : Val)
    (hv : cfg.validator = true) (hrej : validate' v = .ok false) :
    Container.step enc validate' cfg st (.write v) = (st, some .validation) := by
  simp [Container.step, Container.writeGate, hv, hrej]

/-! non-vacuity: a plain schema and environment; a conforming and a non-conforming datum -/
example : (Schema.record "R" [.mk "a" (.union [.prim .null false none, .array (.prim .int false none)]) none []] []).plain = true ∧
    Env.plain [] = true := by decide
example : Spec.conforms 5 [] false false
    (.record "R" [.mk "a" (.union [.prim .null false none, .array (.prim .int false none)]) none []] [])
    (.dict [(.str "a", .list [.int 1, .int 2147483647])]) = true := by decide +kernel
example : Spec.conforms 5 [] false false
    (.record "R" [.mk "a" (.union [.prim .null false none, .array (.prim .int false none)]) none []] [])
    (.dict [(.str "a", .list [.int 1, .int 2147483648])]) = false := by decide +kernel
