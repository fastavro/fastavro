/-
  Properties/C19.lean — load_schema from per-type files.

  `load_schema` parses the root file; when the parser stops at an unknown name it loads that type
  and substitutes its (parsed) definition into the schema with `_inject_schema`, then parses again.
  PROVED about `_inject_schema` (model Load.inject), for every raw schema and namespace nesting: which reference it
  replaces (`c19_reference_resolution`, `c19_record_namespace`) and at which position (`c19_inject_first_use`,
  `c19_inject_absent_unchanged`, `c19_inject_at_most_once`).
  NOT PROVED (checked on the implementation against an independent first-use inliner): that the
  iteration parse → load → inject → parse terminates with the schema that parses like the inlined
  one (canonical form, encoding of data), `load_schema_ordered`, and the error for a missing file.
-/
import Model.Load
import Spec.Pcf

namespace LoadProofs
open Load Binary

theorem ok_bind {α β} (a : α) (f : α → R β) : ((Except.ok a : R α) >>= f) = f a := rfl

/-- `f` maps every element of the first list to the corresponding element of the second without
    finding the reference -/
inductive Untouched (f : Val → Bool → R (Val × Bool)) : List Val → List Val → Prop where
  | nil : Untouched f [] []
  | cons {a b as bs} : f a false = .ok (b, false) → Untouched f as bs → Untouched f (a :: as) (b :: bs)

theorem list_done (f : Val → Bool → R (Val × Bool)) (xs : List Val) : injectListWith f xs true = .ok (xs, true) := by
  induction xs with
  | nil => rfl
  | cons x xs ih => simp only [injectListWith, if_true, ih]; rfl

theorem inject_prim (fuel : Nat) (inner : Val) (innerName name ns : String) (hp : isPrimName name = true) :
    inject (fuel+1) inner innerName (.str name) ns false = .ok (.str name, false) := by
  simp only [inject, Bool.false_eq_true, if_false, hp, if_true]; rfl

end LoadProofs

open Load Binary LoadProofs

/-- a reference is resolved against the namespace in effect exactly as `parse_schema` resolves it (the specification's rule
    `Spec.refName`) and is replaced iff it denotes the loaded definition's full name -/
theorem c19_reference_resolution (fuel : Nat) (inner : Val) (innerName name ns : String) (hp : isPrimName name = false) :
    inject (fuel+1) inner innerName (.str name) ns false =
      if Spec.refName name ns == innerName then .ok (inner, true) else .ok (.str (Spec.refName name ns), false) := by
  simp only [inject, Bool.false_eq_true, if_false, hp, Spec.refName]
  split <;> rfl

/-- record fields are searched in the namespace `schema_name` gives them -/
theorem c19_record_namespace (fuel : Nat) (inner : Val) (innerName : String) (kv : List (Val × Val)) (ns ns' full : String)
    (hty : dictGetV kv "type" = some (.str "record")) (hn : Parse.schemaName kv ns = .ok (ns', full)) :
    inject (fuel+1) inner innerName (.dict kv) ns false = (do
      let (fs, i) ← injectListWith (injectFieldWith fun t inj => inject fuel inner innerName t ns' inj) (dictListOr kv "fields") false
      if fs.isEmpty then pure (.dict kv, i) else pure (.dict (valDictSet kv "fields" (.list fs)), i)) := by
  simp only [inject, Bool.false_eq_true, if_false, hty, hn]
  rfl    -- the tests on the literal "record" compute

/-- among union branches / record fields exactly the first position that contains the reference is rewritten and everything
    after it is left untouched -/
theorem c19_inject_first_use (f : Val → Bool → R (Val × Bool)) (x x' : Val) (post pre pre' : List Val)
    (hpre : Untouched f pre pre') (hx : f x false = .ok (x', true)) :
    injectListWith f (pre ++ x :: post) false = .ok (pre' ++ x' :: post, true) := by
  induction hpre with
  | nil =>
    simp only [List.nil_append, injectListWith, Bool.false_eq_true, if_false, hx, ok_bind, Bool.false_or, list_done]
    rfl
  | cons hab _ ih =>
    simp only [List.cons_append, injectListWith, Bool.false_eq_true, if_false, hab, ok_bind, Bool.or_false, ih]
    rfl

/-- when no position contains the reference the flag stays down -/
theorem c19_inject_absent_unchanged (f : Val → Bool → R (Val × Bool)) (xs xs' : List Val) (h : Untouched f xs xs') :
    injectListWith f xs false = .ok (xs', false) := by
  induction h with
  | nil => rfl
  | cons hab _ ih =>
    simp only [injectListWith, Bool.false_eq_true, if_false, hab, ok_bind, Bool.or_false, ih]
    rfl

/-- once the flag is up nothing further is replaced -/
theorem c19_inject_at_most_once (fuel : Nat) (inner : Val) (innerName : String) (outer : Val) (ns : String)
    (f : Val → Bool → R (Val × Bool)) (xs : List Val) :
    inject (fuel+1) inner innerName outer ns true = .ok (outer, true) ∧ injectListWith f xs true = .ok (xs, true) :=
  ⟨by simp [inject]; rfl, list_done f xs⟩

/-! non-vacuity: the reference `Child` inside namespace `ns` is the definition `ns.Child` -/
def c19outer : Val := .dict [(.str "type", .str "record"), (.str "name", .str "P"), (.str "namespace", .str "ns"),
  (.str "fields", .list [.dict [(.str "name", .str "a"), (.str "type", .str "int")],
                         .dict [(.str "name", .str "c"), (.str "type", .list [.str "null", .str "Child"])],
                         .dict [(.str "name", .str "d"), (.str "type", .str "Child")]])]
def c19inner : Val := .dict [(.str "type", .str "enum"), (.str "name", .str "ns.Child"), (.str "symbols", .list [.str "A"])]

#guard (match inject 10 c19inner "ns.Child" c19outer "" false with
  | .ok (.dict kv, true) =>
    (match dictGetV kv "fields" with
     | some (.list [_, .dict c, .dict d]) =>
        (match dictGetV c "type", dictGetV d "type" with
         | some (.list [.str "null", .dict _]), some (.str "Child") => true
         | _, _ => false)
     | _ => false)
  | _ => false)
