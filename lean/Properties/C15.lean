/-
  Properties/C15.lean — the JSON codec.

  PROVED
    * `c15_encode_eq_spec`, `c15_core_is_spec`, `c15_bytes_strings`, `c15_read_back` — the function level: what
      `json_writer` emits is the specification's JSON encoding, and `json_reader` reads it back as the record as
      written (each clause is stated at its theorem);
    * `c15_machine_value`, `c15_machine_json_writer`, `c15_machine_emits_spec` — the WRITE side of the grammar machine
      (fastavro/io/parser.py: grammar built from the schema, symbol stack, lazily executed actions, root symbol
      restarting the grammar for every record; AvroJSONEncoder: frame stack, `_current`, stale `_key`, `_records`,
      `flush`), modelled step by step in Model/JsonMachine.lean, computes exactly the function-level encoding —
      hence the specification's — for every schema in which no record is empty (`nonEmptyRec`) and the recursion
      guard of `_process_record` stays off (`noSelf`), every non-empty list of records, any nesting depth, provided
      the objects of the result have distinct non-empty keys (`KeysOk`: always true of Python dicts with distinct
      field names);
    * `c15_machine_counterexample_*` — outside those hypotheses the machine really derails, as kernel-checked
      evaluations of the model: an empty record list, a record without fields in final position, a linked list of
      depth 3 (findings F33, F5b, F5a); the implementation is compared with the model on these shapes on every run.
    * `c15_machine_json_reader`, `c15_machine_reads_spec`, `c15_machine_round_trip` — the READ side of the grammar
      machine (AvroJSONDecoder driven by `read_data`: frame stack, `_current`, `_key`, `_push_and_adjust`,
      `read_index` re-binding the union member, `iter_array`'s pop(0), `iter_map`'s del, lazily executed actions,
      `drain_actions` between documents; model JM.decodeAll) returns exactly what the function-level reader returns
      — hence, on the specification's encodings, the records as written — for every schema whose map values leave at
      most their own `RecordEnd` pending (`DOk`: primitives, enums, fixed, arrays, maps, unions of those, and records
      whose last field is one of those, as map values; records anywhere else), documents of the writer's shape
      (`Fits`; proved of every specification encoding: `spec_fits`) — in which a field may also be ABSENT when it has a
      default of that shape: the machine then reads the default exactly as the function-level reader does, wrapped
      under the first branch's label for a union field —, with proper objects (`KeysOk`) and below the model's
      iteration bound (`Small`), any depth, any number of documents;
      `c15_machine_round_trip`: write then read on the machine gives the records as written;
    * `c15_machine_counterexample_map_of_nested_records` — outside `DOk` the machine really fails (finding F28):
      `iter_map` pops the frame the inner `RecordStart` pushed and the `del` hits the wrong object.
  NOT PROVED (checked by the harness on the implementation and against the model): agreement with the
  binary codec (C01's normal form differs from `Spec.written` only in single-precision rounding and
  int → float conversion under float/double), defaults of fields absent from a JSON text that
  `json_writer` did not produce, measured against the SPECIFICATION's reading of a default (the read-side theorems
  cover absent fields, but relative to the function-level reader, which decodes a default as if it were written text:
  finding F27 is where the two differ); the read side for maps
  whose values are unions with a record branch, or records ending in a record (F28) — see known findings F5a–d, F14,
  F27, F28, F31–F33.
-/
import Proofs.Json
import Proofs.JsonBack
import Proofs.JsonMachine
import Proofs.JsonMachineDec
import Proofs.Schema

open Binary Json JsonProofs

/-- on the core fragment (floating-point fields hold floating-point values, map keys are not empty, no logical types)
    the value `json_writer` emits (model `Json.encode`: the writer's traversal with the JSON encoder's calls) is exactly
    the specification's JSON encoding `Spec.jsonEncode` of the datum — null as null, other union values wrapped as
    {branch name: value} with full names for named types, bytes/fixed as strings of code points, enums as symbols,
    maps/records as objects in order, arrays as arrays — for the branches `write_union` selects (C09 is the property
    about that selection), at any depth -/
theorem c15_encode_eq_spec (env : Env) (o : WOpts) (fuel : Nat) (s : Schema) (v j : Val)
    (h : Spec.jsonEncodeCore (fun f bs v => (choose f env o bs v).toOption) fuel env s v = some j) :
    encode true fuel env o s v = .ok j :=
  (encode_eq_spec env o fuel s v).ok h

/-- on that fragment the core encoder and the full specification encoder agree (the fragment only removes inputs, it
    does not change outputs) -/
theorem c15_core_is_spec (pick : Nat → List Schema → Val → Option (Nat × Val)) (env : Env) (fuel : Nat) (s : Schema) (v j : Val)
    (h : Spec.jsonEncodeCore pick fuel env s v = some j) : Spec.jsonEncode pick fuel env s v = some j :=
  (encodeWith_mono jsonPrimFloats_le (fun _ _ => rfl) pick env fuel s v).some h

/-- a byte string written as code points 0–255 decodes back to itself -/
theorem c15_bytes_strings (b : Bytes) : latin1Enc (latin1Dec b) = some b ∧ Spec.codePoints b = latin1Dec b :=
  ⟨latin1_roundtrip b, rfl⟩

open JsonBack in
/-- the read-back clause, at any depth: on that fragment the value `json_writer` emits is the specification's encoding
    AND `json_reader` (model `Json.decode`: the reader's traversal with the JSON decoder's calls) applied to it with the
    same schema returns the record as written (`Spec.written`: absent fields replaced by their defaults, a union value
    as the value of the branch it was written under, sequences as lists, bytearray as bytes; numbers, strings, keys as
    given).  The side conditions are those that make "the record as written" defined: distinct dict keys, distinct
    field names, no two union branches of one name, named-schema table holding named types -/
theorem c15_read_back (env : Env) (he : EnvNamed env) (o : WOpts) (fuel : Nat) (s : Schema) (v j w : Val)
    (hj : Spec.jsonEncodeCore (fun f bs v => (choose f env o bs v).toOption) fuel env s v = some j)
    (hw : Spec.written (fun f bs v => (choose f env o bs v).toOption) fuel env s v = some w) :
    encode true fuel env o s v = .ok j ∧ decode fuel env s j = .ok w :=
  ⟨(encode_eq_spec env o fuel s v).ok hj, decode_encode _ env he fuel s v j w hj hw⟩

/-! non-vacuity: a record with a nullable union of a named type, bytes and an enum -/
def c15schema : Schema := .record "ns.R" [
  .mk "u" (.union [.prim .null false none, .enum "ns.E" ["A", "B"] none []]) none [],
  .mk "b" (.prim .bytes false none) none [],
  .mk "m" (.map (.prim .double false none)) none []] []
def c15value : Val := .dict [(.str "u", .str "B"), (.str "b", .bytes [0, 255]), (.str "m", .dict [(.str "k", .float 0x3FF8000000000000)])]

example : (match Spec.jsonEncodeCore (fun f bs v => (choose f [] {} bs v).toOption) 6 [] c15schema c15value with
    | some (.dict [(.str "u", .dict [(.str "ns.E", .str "B")]), (.str "b", .str _), (.str "m", .dict [(.str "k", .float _)])]) => true
    | _ => false) = true := by decide +kernel

example : JsonBack.EnvNamed [] := Env.All.nil
example : (match Spec.written (fun f bs v => (choose f [] {} bs v).toOption) 6 [] c15schema c15value with
    | some (.dict [(.str "u", .str "B"), (.str "b", .bytes [0, 255]), (.str "m", .dict [(.str "k", .float _)])]) => true
    | _ => false) = true := by decide +kernel

open JM JMProofs

/-- one value, anywhere in a datum: started behind pending actions `acts` on the symbol `G` of its schema, the
    writer's traversal ends with exactly that symbol consumed and the function-level encoding `j` written where the
    value belongs (`e3 = write_value(j)` in the state `e1` the pending actions lead to), up to the stale key -/
theorem c15_machine_value (wut : Bool) (env : Env) (henv : EnvOk env) (o : WOpts) (fuel : Nat)
    (s : Schema) (v j : Val) (hj : encode wut fuel env o s v = .ok j) (hkeys : KeysOk j)
    (d : Option Val) (G : Sym) (hG : Gram env s d G) (hne : nonEmptyRec s = true)
    (st : ES) (acts rest : List Sym) (e1 e3 : Enc) (hentry : Entry st acts G rest e1) (hrest : restOk rest)
    (hw : e1.writeValue j = .ok e3) (hk : keyOk e1) (hc : curOk e1) :
    ∃ st', mEncode wut fuel env o s v st = .ok st' ∧ Exit st' rest e3 :=
  sound_all wut env henv o fuel s v j hj hkeys d G hG hne st acts rest e1 e3 hentry hrest hw hk hc

/-- `json_writer(fo, schema, records)` for a non-empty record list: the documents written are the function-level
    encodings of the records, in order -/
theorem c15_machine_json_writer (wut : Bool) (env : Env) (henv : EnvOk env) (hself : EnvNoSelf env) (o : WOpts) (fuel : Nat)
    (s : Schema) (hs : noSelf s = true) (hne : nonEmptyRec s = true) (ps : List Sym) (hinit : initialStack fuel env s = .ok ps)
    (v j : Val) (vs js : List Val)
    (hall : Pairwise2 (fun v j => encode wut fuel env o s v = .ok j ∧ KeysOk j) (v :: vs) (j :: js)) :
    encodeAll wut fuel env o s (v :: vs) = .ok (j :: js) := by
  obtain ⟨G, rfl, hG⟩ := initialStack_gram hself hinit hs
  exact encodeAll_sound henv hG hne hinit hall

/-- … and therefore the specification's JSON encodings (core fragment of `c15_encode_eq_spec`) -/
theorem c15_machine_emits_spec (env : Env) (henv : EnvOk env) (hself : EnvNoSelf env) (o : WOpts) (fuel : Nat)
    (s : Schema) (hs : noSelf s = true) (hne : nonEmptyRec s = true) (ps : List Sym) (hinit : initialStack fuel env s = .ok ps)
    (v j : Val) (vs js : List Val)
    (hall : Pairwise2 (fun v j => Spec.jsonEncodeCore (fun f bs v => (choose f env o bs v).toOption) fuel env s v = some j ∧ KeysOk j)
      (v :: vs) (j :: js)) :
    encodeAll true fuel env o s (v :: vs) = .ok (j :: js) :=
  c15_machine_json_writer true env henv hself o fuel s hs hne ps hinit v j vs js
    (hall.imp fun _ _ hp => ⟨(encode_eq_spec env o fuel s _).ok hp.1, hp.2⟩)

def c15rec : Schema := .record "R" [.mk "a" (.prim .int false none) none []] []
def c15empty : Schema := .record "E" [] []
def c15list : Schema := .record "L" [.mk "v" (.prim .int false none) none [],
  .mk "next" (.union [.prim .null false none, .ref "L"]) none []] []
def c15listEnv : Env := [("L", c15list)]
def c15node (v : Int) (next : Val) : Val := .dict [(.str "v", .int v), (.str "next", next)]

/-- F33: an empty record list makes `json_writer` raise ('Internal Parser Exception') -/
theorem c15_machine_counterexample_empty_list :
    (match encodeAll true 6 [] {} c15rec [] with | .error .other => true | _ => false) = true := by decide +kernel
/-- F5b: a record without fields in final position -/
theorem c15_machine_counterexample_zero_fields :
    (match encodeAll true 6 [] {} c15empty [.dict []] with | .error .other => true | _ => false) = true := by decide +kernel
/-- F5a: a linked list of depth 3 (IndexError: pop from empty list); depth 2 still works -/
theorem c15_machine_counterexample_depth3 :
    (match encodeAll true 9 c15listEnv {} c15list [c15node 1 (c15node 2 (c15node 3 .none))] with | .error .index => true | _ => false) = true ∧
    (match encodeAll true 9 c15listEnv {} c15list [c15node 1 (c15node 2 .none)] with | .ok [_] => true | _ => false) = true := by
  constructor <;> decide +kernel

theorem c15rec_keysOk (n : Int) : KeysOk (.dict [(.str "a", .int n)]) :=
  .dict _ (List.forall_mem_singleton.mpr ⟨"a", rfl, by decide⟩) (List.pairwise_singleton ..)
    (List.forall_mem_singleton.mpr (.leaf _ nofun nofun))

/-! non-vacuity of `c15_machine_json_writer`: two records through one call -/
example : encodeAll true 6 [] {} c15rec [.dict [(.str "a", .int 5)], .dict [(.str "a", .int 7)]]
    = .ok [.dict [(.str "a", .int 5)], .dict [(.str "a", .int 7)]] :=
  c15_machine_json_writer true [] Env.All.nil Env.All.nil {} 6 c15rec rfl rfl _ rfl _ _ _ _
    (.cons ⟨rfl, c15rec_keysOk 5⟩ (.cons ⟨rfl, c15rec_keysOk 7⟩ .nil))

open JMDec

/-- `json_reader` on the machine: for a schema whose map values leave at most their own `RecordEnd` pending (`DOk`),
    JSON documents of the writer's shape (`Fits`), with proper objects (`KeysOk`) and below the model's iteration bound
    (`Small`): the records returned are those of the function-level reader, in order -/
theorem c15_machine_json_reader (env : Env) (henv : EnvOk env) (hself : EnvNoSelf env) (fuel : Nat)
    (s : Schema) (hs : noSelf s = true) (hne : nonEmptyRec s = true) (hok : DOk env s) (ps : List Sym)
    (hinit : initialStack fuel env s = .ok ps) (docs ws : List Val)
    (hall : Pairwise2 (fun j w => Json.decode fuel env s j = .ok w ∧ Fits env fuel s j ∧ KeysOk j ∧ Small j) docs ws) :
    decodeAll fuel env s docs = .ok ws := by
  obtain ⟨G, rfl, hG⟩ := initialStack_gram hself hinit hs
  exact decodeAll_sound env henv fuel s G hG hne hok hinit docs ws hall

/-- … in particular the specification's JSON encodings are read back as the records as written -/
theorem c15_machine_reads_spec (env : Env) (henv : EnvOk env) (hself : EnvNoSelf env) (o : WOpts) (fuel : Nat)
    (s : Schema) (hs : noSelf s = true) (hne : nonEmptyRec s = true) (hok : DOk env s) (ps : List Sym)
    (hinit : initialStack fuel env s = .ok ps) (recs : List (Val × Val × Val))
    (hall : ∀ t ∈ recs,
      Spec.jsonEncodeCore (fun f bs v => (choose f env o bs v).toOption) fuel env s t.1 = some t.2.1 ∧
      Spec.written (fun f bs v => (choose f env o bs v).toOption) fuel env s t.1 = some t.2.2 ∧
      KeysOk t.2.1 ∧ Small t.2.1) :
    decodeAll fuel env s (recs.map (·.2.1)) = .ok (recs.map (·.2.2)) :=
  c15_machine_json_reader env henv hself fuel s hs hne hok ps hinit _ _ <| .map _ _ fun t ht =>
    have ⟨hj, hw, hk, hsm⟩ := hall t ht
    have ⟨hd, hf⟩ := JsonBack.spec_read _ env henv.named fuel s t.1 t.2.1 t.2.2 hj hw
    ⟨hd, hf, hk, hsm⟩

/-- write, then read, on the machine: a non-empty list of records goes through `json_writer` as the
    specification's encodings and comes back through `json_reader` as the records as written -/
theorem c15_machine_round_trip (env : Env) (henv : EnvOk env) (hself : EnvNoSelf env) (o : WOpts) (fuel : Nat)
    (s : Schema) (hs : noSelf s = true) (hne : nonEmptyRec s = true) (hok : DOk env s) (ps : List Sym)
    (hinit : initialStack fuel env s = .ok ps) (t0 : Val × Val × Val) (recs : List (Val × Val × Val))
    (hall : ∀ t ∈ t0 :: recs,
      Spec.jsonEncodeCore (fun f bs v => (choose f env o bs v).toOption) fuel env s t.1 = some t.2.1 ∧
      Spec.written (fun f bs v => (choose f env o bs v).toOption) fuel env s t.1 = some t.2.2 ∧
      KeysOk t.2.1 ∧ Small t.2.1) :
    encodeAll true fuel env o s ((t0 :: recs).map (·.1)) = .ok ((t0 :: recs).map (·.2.1)) ∧
    decodeAll fuel env s ((t0 :: recs).map (·.2.1)) = .ok ((t0 :: recs).map (·.2.2)) :=
  ⟨c15_machine_emits_spec env henv hself o fuel s hs hne ps hinit _ _ _ _
      (.map (·.1) (·.2.1) (l := t0 :: recs) fun t ht => ⟨(hall t ht).1, (hall t ht).2.2.1⟩),
    c15_machine_reads_spec env henv hself o fuel s hs hne hok ps hinit (t0 :: recs) hall⟩

def c15inner : Schema := .record "S" [.mk "c" (.prim .int false none) none []] []
def c15outer : Schema := .record "R" [.mk "a" (.prim .int false none) none [], .mk "b" c15inner none []] []
def c15mapRR : Schema := .map c15outer
def c15mapRRval : Val := .dict [(.str "k", .dict [(.str "a", .int 1), (.str "b", .dict [(.str "c", .int 2)])])]

/-- F28: a map whose values are records that end in a record: written, and read by the function-level reader, but
    the machine's `iter_map` pops the wrong frame (KeyError on the map key) -/
theorem c15_machine_counterexample_map_of_nested_records :
    (match encodeAll true 8 [] {} c15mapRR [c15mapRRval], Json.decode 8 [] c15mapRR c15mapRRval, decodeAll 8 [] c15mapRR [c15mapRRval] with
     | .ok [.dict [(.str "k", .dict [(.str "a", .int 1), (.str "b", .dict [(.str "c", .int 2)])])]],
       .ok (.dict [(.str "k", .dict [(.str "a", .int 1), (.str "b", .dict [(.str "c", .int 2)])])]), .error .index => true
     | _, _, _ => false) = true := by decide +kernel

example : DOk [] c15schema := by
  refine .record _ _ _ (by decide) (List.forall_mem_cons.mpr ⟨?u, List.forall_mem_cons.mpr ⟨?b, List.forall_mem_singleton.mpr ?m⟩⟩)
  case u => exact .union _ (List.forall_mem_cons.mpr ⟨.prim .., List.forall_mem_singleton.mpr (.enum ..)⟩)
  case b => exact .prim ..
  case m => exact .map _ (.prim ..) (.inl (.prim ..))

theorem c15rec_small (n : Int) : Small (.dict [(.str "a", .int n)]) :=
  .dict _ (by decide : 1 < DFUEL) (List.forall_mem_singleton.mpr (.leaf _ nofun nofun))

/-! non-vacuity of `c15_machine_round_trip`: two records written and read through the machine -/
example : encodeAll true 6 [] {} c15rec [.dict [(.str "a", .int 5)], .dict [(.str "a", .int 7)]]
      = .ok [.dict [(.str "a", .int 5)], .dict [(.str "a", .int 7)]] ∧
    decodeAll 6 [] c15rec [.dict [(.str "a", .int 5)], .dict [(.str "a", .int 7)]]
      = .ok [.dict [(.str "a", .int 5)], .dict [(.str "a", .int 7)]] :=
  c15_machine_round_trip [] Env.All.nil Env.All.nil {} 6 c15rec rfl rfl
    (.record _ _ _ (by decide) (List.forall_mem_singleton.mpr (.prim ..))) _ rfl
    (.dict [(.str "a", .int 5)], .dict [(.str "a", .int 5)], .dict [(.str "a", .int 5)])
    [(.dict [(.str "a", .int 7)], .dict [(.str "a", .int 7)], .dict [(.str "a", .int 7)])]
    (List.forall_mem_cons.mpr ⟨⟨rfl, rfl, c15rec_keysOk 5, c15rec_small 5⟩,
      List.forall_mem_singleton.mpr ⟨rfl, rfl, c15rec_keysOk 7, c15rec_small 7⟩⟩)

/-! a map of records is inside `DOk` (one pop pending after each value), and the machine reads it -/
def c15mapR : Schema := .map c15inner
example : DOk [] c15mapR :=
  .map _ (.record _ _ _ (by decide) (List.forall_mem_singleton.mpr (.prim ..)))
    (.inr (.record _ _ _ fun _ hf => by cases hf; exact .prim ..))
example : (match decodeAll 8 [] c15mapR [.dict [(.str "k", .dict [(.str "c", .int 2)]), (.str "l", .dict [(.str "c", .int 3)])]] with
    | .ok [.dict [(.str "k", .dict [(.str "c", .int 2)]), (.str "l", .dict [(.str "c", .int 3)])]] => true
    | _ => false) = true := by decide +kernel

/-! fields absent from the text: the machine fills in the defaults (a string, a null union, a record default completed by
    its own field defaults) as the function-level reader does -/
def c15dflt : Schema := .record "D" [.mk "a" (.prim .int false none) none [], .mk "b" (.prim .string false none) (some (.str "x")) [],
  .mk "u" (.union [.prim .null false none, .prim .int false none]) (some .none) [],
  .mk "r" (.record "In" [.mk "c" (.prim .int false none) (some (.int 7)) []] []) (some (.dict [])) []] []
example : (match decodeAll 8 [] c15dflt [.dict [(.str "a", .int 1)]], Json.decode 8 [] c15dflt (.dict [(.str "a", .int 1)]) with
    | .ok [.dict [(.str "a", .int 1), (.str "b", .str "x"), (.str "u", .none), (.str "r", .dict [(.str "c", .int 7)])]],
      .ok (.dict [(.str "a", .int 1), (.str "b", .str "x"), (.str "u", .none), (.str "r", .dict [(.str "c", .int 7)])]) => true
    | _, _ => false) = true := by decide +kernel
