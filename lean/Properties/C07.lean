/-
  Properties/C07.lean — any history of write / failed write / flush / block copy reads back as the
  records successfully submitted. Re-opening for append resumes from the same stream contents with an
  empty pending block (the file's own schema, codec and marker are used, arguments are ignored — that
  part is tied by correspondence), so a history with re-opens is a history without them.
-/
import Properties.C04

open Binary Container ContainerProofs WriterProofs

/-- **C07 (invariant).** for every finite history over {write a conforming record, write a record that
    fails, flush, copy a block that decodes to its record count}: the stream is `header ++` well-formed
    blocks, the pending buffer holds exactly `count` whole records, and blocks ++ pending are exactly the
    records successfully submitted, in submission order -/
theorem c07_history (fuel : Nat) (env : Env) (o : WOpts) (s : Schema) (validate : Val → R Bool) (cfg : WCfg)
    (hdr : Bytes) (ops : List Op)
    (hops : ∀ op ∈ ops, OpOk (fileEnc fuel env o s) (fileDec fuel env s) (fileNf fuel env o s) op) :
    let init : WState × Ghost := ({ out := hdr, pending := [], count := 0 }, { blocks := [], pend := [], submitted := [] })
    let sg := runG (fileEnc fuel env o s) (fileDec fuel env s) validate cfg (fileNf fuel env o s) init ops
    WInv (fileDec fuel env s) cfg hdr sg.1 sg.2 :=
  inv_history validate cfg (Stable.readData_ext env {} fuel s) hdr hops

/-- **C07 (read back).** after each flush the stream reads back as exactly the records successfully
    submitted so far, in submission order, and ends normally -/
theorem c07_flush_reads_back (fuel : Nat) (env : Env) (o : WOpts) (s : Schema) (validate : Val → R Bool) (cfg : WCfg)
    (hs : cfg.codec.Sound) (hsync : cfg.sync.length = 16) (hdr : Bytes) (st : WState) (g : Ghost)
    (h : WInv (fileDec fuel env s) cfg hdr st g)
    (hfit : ∀ b ∈ (gStep (fileEnc fuel env o s) (fileDec fuel env s) validate cfg (fileNf fuel env o s) st g .flush).blocks,
        b.count < 2 ^ 63 ∧ (cfg.codec.compress b.payload).length < 2 ^ 63)
    (k : Nat)
    (hk : (gStep (fileEnc fuel env o s) (fileDec fuel env s) validate cfg (fileNf fuel env o s) st g .flush).blocks.length < k) :
    ∃ area, (step (fileEnc fuel env o s) validate cfg st .flush).1.out = hdr ++ area ∧
      readBlocks (fileDec fuel env s) cfg.codec cfg.sync k area =
        ((gStep (fileEnc fuel env o s) (fileDec fuel env s) validate cfg (fileNf fuel env o s) st g .flush).submitted, .eof) :=
  flush_reads_back _ _ validate cfg _ (Stable.readData_ext env {} fuel s) hs hsync hdr st g h hfit k hk

/-- **C07 (failed write).** a write that raises — rejected by the validator or failing part-way
    through encoding — leaves the writer exactly as it was: it contributes nothing -/
theorem c07_failed_write_contributes_nothing (enc : Val → WR) (validate : Val → R Bool) (cfg : WCfg)
    (st : WState) (v : Val) (e : Err) (h : (step enc validate cfg st (.write v)).2 = some e) :
    (step enc validate cfg st (.write v)).1 = st := by
  rcases step_write_cases enc validate cfg st v with ⟨e', hfail⟩ | ⟨w, _, hok⟩
  · rw [hfail]
  · rw [hok] at h; cases h

/-- **C07 (header).** nothing already on the stream is ever changed: after any history the stream is
    the old contents followed by more bytes — in particular the header (schema, codec, sync marker,
    metadata) written at creation never changes -/
theorem c07_header_never_changes (enc : Val → WR) (validate : Val → R Bool) (cfg : WCfg) (st : WState) (ops : List Op) :
    ∃ t, (run enc validate cfg st ops).out = st.out ++ t :=
  let ⟨t, h⟩ := run_out enc validate cfg st ops
  ⟨t, h.symm⟩

/-- **C07 (re-opening for append).** a writer opened on a stream that already holds a container file written with
    header `(metadata, sync)` resumes with that file's own sync marker and codec name, whatever `codec`,
    `sync_marker`, `schema` or `metadata` arguments it is given: a history with re-opens is a history of one writer
    (`c07_history`) -/
theorem c07_reopen_resumes (metadata : List (String × Bytes)) (sync area hb : Bytes) (codecName : String)
    (hw : writeHeader metadata sync = ⟨hb, none⟩) (hsync : sync.length = 16)
    (hkeys : (metadata.map (·.1)).Nodup) (hlen : metadata.length < Spec.LIMIT)
    (hsmall : ∀ e ∈ metadata, (utf8Enc e.1).length < Spec.LIMIT ∧ e.2.length < Spec.LIMIT)
    (hcodec : metadata.lookup "avro.codec" = some (utf8Enc codecName)) :
    reopen (hb ++ area) = .ok (sync, codecName) := by
  unfold reopen
  rw [c04_header_roundtrip metadata sync area hb hw hsync hkeys hlen hsmall]
  simp only [bind, Except.bind, Header.codecName, hcodec, utf8Dec_utf8Enc]
  rfl

/-- **C07 (append detection).** `_is_appendable`: exactly the seekable streams that are not at position 0, are not
    the interpreter's `<stdout>` and can be read; a stream that qualifies but cannot be read is an error -/
theorem c07_appendable_table (f : StreamFacts) :
    isAppendable f = (if f.seekable = true ∧ f.pos ≠ 0 ∧ f.isStdout = false then
        (if f.readable then .ok true else .error .value) else .ok false) := by
  obtain ⟨s, p, o, r⟩ := f
  cases s <;> cases o <;> cases r <;> by_cases hp : p = 0 <;> simp [isAppendable, hp]

/-- **C07 (a re-open is a flush).** On a stream that begins with the header this file was created with — whatever
    blocks follow — closing the writer and opening a new one for append, with any arguments, continues with the very
    same configuration and the state a `flush` leaves: a history with re-opens is the same history with flushes. -/
theorem c07_reopen_is_flush (enc : Val → WR) (validate : Val → R Bool) (codecFor : String → Option Codec)
    (cfg : WCfg) (st : WState) (metadata : List (String × Bytes)) (hb : Bytes) (codecName : String)
    (hw : writeHeader metadata cfg.sync = ⟨hb, none⟩) (hsync : cfg.sync.length = 16)
    (hkeys : (metadata.map (·.1)).Nodup) (hlen : metadata.length < Spec.LIMIT)
    (hsmall : ∀ e ∈ metadata, (utf8Enc e.1).length < Spec.LIMIT ∧ e.2.length < Spec.LIMIT)
    (hcodec : metadata.lookup "avro.codec" = some (utf8Enc codecName)) (hfor : codecFor codecName = some cfg.codec)
    (hout : ∃ area, st.out = hb ++ area) :
    reopenStep codecFor cfg st = .ok (cfg, (step enc validate cfg st .flush).1) := by
  obtain ⟨area, harea⟩ := hout
  obtain ⟨t, ht⟩ := dumpIfPending_out cfg st
  have hre : reopen (dumpIfPending cfg st).out = .ok (cfg.sync, codecName) := by
    rw [← ht, harea, List.append_assoc]
    exact c07_reopen_resumes metadata cfg.sync (area ++ t) hb codecName hw hsync hkeys hlen hsmall hcodec
  simp only [reopenStep, hre, bind, Except.bind, hfor, pure, Except.pure, step]
