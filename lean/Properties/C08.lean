/-
  Properties/C08.lean — schema resolution: the reader-schema paths of `read_data` (model Resolve.readR) against the
  specification reader Spec.resolveRead (Spec/Resolve.lean, written from the specification's rule list): single
  resolution steps, the decision logic, and their composition.

  Hypotheses of the decision logic: the two named-schema tables are what `parse_schema` builds (`EnvWF`: entries are
  definitions registered under their own full names, no built-in type name is a key) and the schemas are closed in
  them (`MClosed`).  Of the composition (`ResolveFull.Good`, checked on every harness case by the driver's `c08.hyp`
  operation, see evidence): the tables are `parse_schema`'s (`EnvWF`); every name is defined; the writer schema
  carries no logical type (logical types are C16's subject); reader definitions are the reader table's entries; a
  reader record's fields are told apart by name and by alias; a union is not an immediate member of a union (the
  specification forbids it).
-/
import Proofs.ResolveFull
import Proofs.Schema

open Binary Resolve ResolveProofs

open ResolveMatch ResolveFull in
/-- **C08 (composition).** For every pair of schemas, every byte string, any nesting depth: every definite result of
    `read_data` with a reader schema (model Resolve.readR: value + rest, schema-resolution error, decoding error) is the
    specification reader's result (Spec.resolveRead), through arrays, maps, records (field matching, skipping,
    defaults), unions on either side and named types inline or by reference.  "Definite" = not the model's own
    nesting-fuel exhaustion (the fuel bounds the nesting depth only; the driver runs with 400). -/
theorem c08_resolve_eq_spec (fuel : Nat) (wenv renv : Env) (ro : ROpts) (w r : Schema) (bs : Bytes) (res : R (Val × Bytes))
    (hwf : EnvWF wenv) (hrf : EnvWF renv) (hgw : EnvGood wenv false) (hgr : EnvGood renv true)
    (hw : Good wenv false w) (hr : Good renv true r)
    (h : readR fuel wenv renv ro w r bs = res) (hd : res ≠ .error .fuel) :
    ∃ fuel', Spec.resolveRead fuel' wenv renv w r bs = res := by
  subst h
  exact ⟨2 * fuel, readR_le hwf hrf hgw hgr ro fuel w r hw hr _ (Nat.le_refl _) bs hd⟩

/-- **C08 (one step).** the promotion pairs `match_types` accepts and the conversions `maybe_promote` applies are the
    specification's, for all 64 pairs -/
theorem c08_promotions (wp rp : Prim) (v : Val) :
    promotes wp.name rp.name = Spec.promotable wp rp ∧
    maybePromote v wp.name rp.name = Spec.promote wp rp v :=
  ⟨promotes_eq wp rp, promote_eq wp rp v⟩

/-- **C08 (one step).** a primitive read under a primitive reader type: equal to the specification's reader on every
    byte string (value, promoted value, schema-resolution error, decoding error) -/
theorem c08_primitives (fuel : Nat) (wenv renv : Env) (ro : ROpts) (wp rp : Prim) (bs : Bytes)
    (hw : NoPrimKeys wenv) :
    readR (fuel+2) wenv renv ro (.prim wp false none) (.prim rp false none) bs =
      Spec.resolveRead (fuel+2) wenv renv (.prim wp false none) (.prim rp false none) bs := by
  have hm : Spec.matchesS wenv renv (.prim wp false none) (.prim rp false none) = (wp == rp || Spec.promotable wp rp) := rfl
  rw [readR, Spec.resolveRead, matchSchemas_prim fuel wenv renv wp rp hw, hm]
  cases hc : (wp == rp || Spec.promotable wp rp)
  · rfl
  · simp only [if_true, Bool.not_true, Bool.false_eq_true, if_false, Spec.deref, Option.isSome_none,
      RejectLike.ok_bind, Schema.typeName, promote_eq]

/-- **C08 (one step).** unknown symbol → reader default → else schema-resolution error -/
theorem c08_enum_default (sym rn : String) (rsyms : List String) (rdef : Option Val) (ral : List String) :
    resolveSymbol sym (.enum rn rsyms rdef ral) =
      (if rsyms.contains sym then pure (.str sym)
       else match rdef with
         | some d => if d.truthy then pure d else throw .resolution
         | none => throw .resolution) := rfl

/-- **C08 (one step).** the writer-field loop of `read_record` is the specification's: match by name, else by reader
    alias, regardless of order; others skipped; the dict-based lookup is the specification's under unambiguous names -/
theorem c08_field_matching (rd : Schema → Schema → Bytes → R (Val × Bytes)) (sk : Schema → Bytes → R Bytes)
    (rfs wfs : List Field) (h : FieldsUnambiguous rfs) (bs : Bytes) (acc : List (Val × Val)) :
    readFieldsRWith rd sk rfs wfs bs acc = Spec.fieldsWith rd sk rfs wfs bs acc :=
  fields_eq rd sk rfs (findReaderField_eq rfs h) wfs bs acc

open ResolveMatch in
/-- **C08 (decision logic).** For every pair of schemas, any nesting, inline or by reference: whenever `match_types`
    returns, it returns the specification's "schemas match" (Spec.matchesS): same primitive or promotable; arrays /
    maps whose item / value types match; definitions of the same kind whose unqualified names agree or whose writer
    name is a reader alias, fixed of the same size; a name stands for its definition on either side. -/
theorem c08_match_eq_spec (wenv renv : Env) (hwf : EnvWF wenv) (hrf : EnvWF renv) (f : Nat) (w r : Schema) (b : Bool)
    (hw : MClosed wenv false w) (hr : MClosed renv true r) (h : matchTypes f wenv renv w r = .ok b) :
    b = Spec.matchesS wenv renv w r := by
  cases (mt_le hwf hrf f w r hw hr).ok_of_ok h; rfl

open ResolveMatch in
/-- **C08 (decision logic).** the branch of a reader union found through `_reader_branches` and `match_types` is the
    branch the specification's rule picks (the writer's own type first — the one with the writer's full name before
    namesakes —, else the first reachable by promotion) -/
theorem c08_pick_eq_spec (wenv renv : Env) (hwf : EnvWF wenv) (hrf : EnvWF renv) (f : Nat) (w : Schema) (rs : List Schema)
    (o : Option Schema) (hw : MClosed wenv false w) (huw : isList w = false)
    (hrs : ∀ b ∈ rs, MClosed renv true b ∧ isList b = false)
    (h : firstMatchWith (matchTypes f wenv renv) w (readerBranches wenv renv w rs) = .ok o) :
    o = Spec.pickBranch wenv renv w rs := by
  cases (pick_le hwf hrf f w rs hw huw hrs).ok_of_ok h; rfl

/-! non-vacuity of the hypotheses: a table holding one definition under its own name is `EnvWF` (on two such tables
    `match_types` matches enums that share the unqualified name only); instances of `NoPrimKeys` and
    `FieldsUnambiguous`; a promoting read and a refused demotion -/
section
open ResolveMatch
theorem envWF_single (k : String) (d : Schema) (hk : AVRO_TYPES.contains k = false) (hn : d.isNamedDef = true)
    (hd : d.defName? = some k) : EnvWF [(k, d)] := by
  constructor
  · intro n hn'
    have : (k == n) = false := Bool.eq_false_iff.2 fun hc => by rw [beq_iff_eq.1 hc, hn'] at hk; cases hk
    simp only [Env.get?, this, Bool.false_eq_true, if_false]
  · exact Env.All.single ⟨hn, hd⟩
end

open ResolveMatch in
example : EnvWF [("ns.E", .enum "ns.E" ["A"] none [])] := envWF_single _ _ (by decide) rfl rfl
-- (`#guard`: compiled evaluation; the kernel cannot unfold `String.splitOn` in `unqual`)
#guard (match matchTypes 3 [("ns.E", .enum "ns.E" ["A"] none [])] [("other.E", .enum "other.E" ["A", "B"] none [])]
      (.array (.ref "ns.E")) (.array (.ref "other.E")) with
    | .ok true => true | _ => false)

example : NoPrimKeys [("ns.R", .record "ns.R" [] [])] := by intro p; cases p <;> decide
example : FieldsUnambiguous [.mk "a" (.prim .int false none) none ["old"], .mk "b" (.prim .int false none) none []] := by
  constructor
  · intro a ha b hb; simp at ha hb; rcases ha with rfl | rfl <;> rcases hb with rfl | rfl <;> simp [Field.name]
  · intro n a ha b hb; simp at ha hb; rcases ha with rfl | rfl <;> rcases hb with rfl | rfl <;> simp [Field.aliases]
example : (match readR 5 [] [] {} (.prim .int false none) (.prim .double false none) [0x0a] with
    | .ok (.float _, []) => true | _ => false) = true := by decide +kernel
example : (match readR 5 [] [] {} (.prim .long false none) (.prim .int false none) [0x0a] with
    | .error .resolution => true | _ => false) = true := by decide +kernel

/-! non-vacuity of `c08_resolve_eq_spec`: a record with a union-of-array field read through a reader
    record with reordered fields, promotions, a reordered union, an alias and a defaulted field -/
section
open Binary Resolve ResolveProofs ResolveMatch ResolveFull
def exW : Schema := .record "R" [.mk "a" (.prim .int false none) none [],
    .mk "u" (.union [.prim .null false none, .array (.prim .string false none)]) none []] []
def exR : Schema := .record "R" [.mk "u" (.union [.array (.prim .bytes false none), .prim .null false none]) none [],
    .mk "a" (.prim .double false none) none [], .mk "c" (.prim .string false none) (some (.str "x")) ["old"]] []

example : EnvWF [("R", exW)] ∧ EnvWF [("R", exR)] :=
  ⟨envWF_single _ _ (by decide) rfl rfl, envWF_single _ _ (by decide) rfl rfl⟩

theorem exW_good : Good [("R", exW)] false exW := by
  simp [exW, Good, GoodFields, GoodList, isList]
theorem exR_good : Good [("R", exR)] true exR := by
  refine ⟨fun _ => ⟨by simp [exR, Env.get?], by simp [Field.name], ?_, ?_⟩, ?_⟩
  · intro a ha b hb; simp at ha hb; rcases ha with rfl | rfl | rfl <;> rcases hb with rfl | rfl | rfl <;> simp [Field.name]
  · intro n a ha b hb; simp at ha hb; rcases ha with rfl | rfl | rfl <;> rcases hb with rfl | rfl | rfl <;> simp [Field.aliases]
  · simp [Good, GoodFields, GoodList, isList]
example : EnvGood [("R", exW)] false ∧ EnvGood [("R", exR)] true := ⟨Env.All.single exW_good, Env.All.single exR_good⟩
example : Good [("R", exW)] false (.ref "R") ∧ Good [("R", exR)] true (.ref "R") := ⟨⟨exW, rfl⟩, ⟨exR, rfl⟩⟩
-- the record {a: 5, u: ["k"]} under the writer schema, read through the reader schema
#guard (match readR 6 [("R", exW)] [("R", exR)] {} (.ref "R") (.ref "R") [0x0a, 0x02, 0x02, 0x02, 0x6b, 0x00] with
    | .ok (.dict [(.str "a", .float _), (.str "u", .list [.bytes [0x6b]]), (.str "c", .str "x")], []) => true | _ => false)
end
