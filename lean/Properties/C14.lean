/-
  Properties/C14.lean — schema fingerprints: CRC-64-AVRO against the specification's two definitions, its hex text,
  and the dispatch on the algorithm name (the hashlib digests themselves are external).
-/
import Proofs.Rabin
import Proofs.Py
import Gen.Tables

open Rabin

def c14Algs : List String := (Gen.strSets.lookup "_schema_common.FINGERPRINT_ALGORITHMS").getD []
def c14Java : List (String × String) := (Gen.strMaps.lookup "_schema_common.JAVA_FINGERPRINT_MAPPING").getD []

/-- **C14.** the Python loop on unbounded ints computes the specification's 64-bit fingerprint
    (seed and polynomial 0xC15D213AA4D7A795), for every byte string -/
theorem c14_rabin_eq_spec (bs : Bytes) : rabin bs = (Spec.fingerprint64 bs).toNat ∧ rabin bs < 2 ^ 64 :=
  ⟨RabinProofs.rabin_eq_spec bs, by rw [RabinProofs.rabin_eq_spec]; exact (Spec.fingerprint64 bs).isLt⟩

/-- the table-driven definition equals the bit-serial CRC (one shift / conditional xor per bit) -/
theorem c14_table_eq_bitserial (bs : Bytes) : Spec.fingerprint64 bs = Spec.bitSerial bs := by
  unfold Spec.fingerprint64 Spec.bitSerial
  congr 1
  funext fp b
  rw [RabinProofs.table_step fp _ (RabinProofs.byteBV_high b), Spec.tableEntry, BitVec.ofNat_toNat, BitVec.setWidth_eq]

/-- sixteen hex digits, little-endian byte order, decoding back to the fingerprint -/
theorem c14_hex (n : Nat) (h : n < 2 ^ 64) :
    (hexLE8 n).toList.length = 16 ∧ RabinProofs.parseHex (hexLE8 n).toList = some (Py.toBytesLE 8 n) ∧
    Py.fromBytesLE (Py.toBytesLE 8 n) = n := by
  unfold hexLE8 hexOfBytes
  refine ⟨by simp [Py.toBytesLE, hexByte], ?_, ?_⟩
  · simp only [String.toList_ofList]; exact RabinProofs.parse_hexOfBytes _
  · rw [Py.fromBytesLE_toBytesLE]; exact Nat.mod_eq_of_lt (by omega)

/-- the empty text maps to the seed -/
theorem c14_empty : (match fingerprint c14Algs c14Java "" "CRC-64-AVRO" with
      | .ok (.hex h) => h == "95a7d7a43a215dc1" | _ => false) = true ∧
    rabin [] = 0xC15D213AA4D7A795 := by
  constructor <;> decide +kernel

/-- what `c14_dispatch` needs of the two tables generated from /repo: the algorithms advertised and the Java spellings -/
theorem c14_tables : c14Algs.contains "MD5" = true ∧ c14Algs.contains "SHA-256" = true ∧
    c14Algs.contains "CRC-64-AVRO" = true ∧ c14Java = [("MD5", "md5"), ("SHA-256", "sha256")] := by
  decide +kernel

/-- dispatch: an unknown name is a ValueError; the Java spellings and every advertised hashlib name
    give that digest of the UTF-8 bytes; `CRC-64-AVRO` gives the Rabin fingerprint text -/
theorem c14_dispatch (text : String) :
    (∀ alg, c14Algs.contains alg = false → fingerprint c14Algs c14Java text alg = .error .value) ∧
    fingerprint c14Algs c14Java text "MD5" = .ok (.digest "md5") ∧
    fingerprint c14Algs c14Java text "SHA-256" = .ok (.digest "sha256") ∧
    fingerprint c14Algs c14Java text "CRC-64-AVRO" = .ok (.hex (hexLE8 (rabin (utf8Enc text)))) ∧
    (∀ alg, c14Algs.contains alg = true → alg ≠ "MD5" → alg ≠ "SHA-256" → alg ≠ "CRC-64-AVRO" →
      fingerprint c14Algs c14Java text alg = .ok (.digest alg)) := by
  obtain ⟨t1, t2, t3, tj⟩ := c14_tables
  refine ⟨?_, ?_, ?_, ?_, ?_⟩
  · intro alg h
    simp only [fingerprint, h, Bool.not_false, ↓reduceIte]
  · simp only [fingerprint, t1, tj, List.lookup]
    simp
  · simp only [fingerprint, t2, tj, List.lookup]
    simp
  · simp only [fingerprint, t3, tj, List.lookup]
    simp
  · intro alg hc h1 h2 h3
    simp only [fingerprint, hc, tj, List.lookup, beq_false_of_ne h1, beq_false_of_ne h2, Option.getD_none, beq_false_of_ne h3,
      Bool.not_true, Bool.false_eq_true, ↓reduceIte]

/-- schemas with equal canonical forms have equal fingerprints -/
theorem c14_congruence (t t' alg : String) (h : t = t') :
    fingerprint c14Algs c14Java t alg = fingerprint c14Algs c14Java t' alg := by rw [h]

/-- non-vacuity: the Apache reference vector `"int"` ↦ 0x7275d51a3f395c8f (printed little-endian) -/
example : (match fingerprint c14Algs c14Java "\"int\"" "CRC-64-AVRO" with
    | .ok (.hex h) => h == "8f5c393f1ad57572" | _ => false) = true := by decide +kernel
