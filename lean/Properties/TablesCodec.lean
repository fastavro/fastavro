/-
  Properties/TablesCodec.lean — the constants and dispatch tables the codec model rests on (Gen/Tables.lean).  Built by
  the checks of C01–C03 and C09 and by no other.
-/
import Properties.TablesCommon
import Model.Validate
namespace Tables

theorem int_bounds :
    int? "const.INT_MIN_VALUE" = some Validate.INT_MIN ∧ int? "const.INT_MAX_VALUE" = some Validate.INT_MAX ∧
    int? "const.LONG_MIN_VALUE" = some Validate.LONG_MIN ∧ int? "const.LONG_MAX_VALUE" = some Validate.LONG_MAX := by
  decide +kernel

/-- each type name the model dispatches on is handled by the function of the matching kind -/
theorem writers_dispatch :
    disp? "_write_py.WRITERS" "null" = some "write_null" ∧ disp? "_write_py.WRITERS" "boolean" = some "write_boolean" ∧
    disp? "_write_py.WRITERS" "string" = some "write_utf8" ∧ disp? "_write_py.WRITERS" "int" = some "write_int" ∧
    disp? "_write_py.WRITERS" "long" = some "write_long" ∧ disp? "_write_py.WRITERS" "float" = some "write_float" ∧
    disp? "_write_py.WRITERS" "double" = some "write_double" ∧ disp? "_write_py.WRITERS" "bytes" = some "write_bytes" ∧
    disp? "_write_py.WRITERS" "fixed" = some "write_fixed" ∧ disp? "_write_py.WRITERS" "enum" = some "write_enum" ∧
    disp? "_write_py.WRITERS" "array" = some "write_array" ∧ disp? "_write_py.WRITERS" "map" = some "write_map" ∧
    disp? "_write_py.WRITERS" "union" = some "write_union" ∧ disp? "_write_py.WRITERS" "record" = some "write_record" := by
  decide +kernel

theorem readers_dispatch :
    disp? "_read_py.READERS" "null" = some "read_null" ∧ disp? "_read_py.READERS" "boolean" = some "read_boolean" ∧
    disp? "_read_py.READERS" "string" = some "read_utf8" ∧ disp? "_read_py.READERS" "int" = some "read_int" ∧
    disp? "_read_py.READERS" "long" = some "read_long" ∧ disp? "_read_py.READERS" "float" = some "read_float" ∧
    disp? "_read_py.READERS" "double" = some "read_double" ∧ disp? "_read_py.READERS" "bytes" = some "read_bytes" ∧
    disp? "_read_py.READERS" "fixed" = some "read_fixed" ∧ disp? "_read_py.READERS" "enum" = some "read_enum" ∧
    disp? "_read_py.READERS" "array" = some "read_array" ∧ disp? "_read_py.READERS" "map" = some "read_map" ∧
    disp? "_read_py.READERS" "union" = some "read_union" ∧ disp? "_read_py.READERS" "record" = some "read_record" := by
  decide +kernel

theorem skips_dispatch :
    disp? "_read_py.SKIPS" "null" = some "skip_null" ∧ disp? "_read_py.SKIPS" "boolean" = some "skip_boolean" ∧
    disp? "_read_py.SKIPS" "string" = some "skip_utf8" ∧ disp? "_read_py.SKIPS" "int" = some "skip_int" ∧
    disp? "_read_py.SKIPS" "long" = some "skip_long" ∧ disp? "_read_py.SKIPS" "float" = some "skip_float" ∧
    disp? "_read_py.SKIPS" "double" = some "skip_double" ∧ disp? "_read_py.SKIPS" "bytes" = some "skip_bytes" ∧
    disp? "_read_py.SKIPS" "fixed" = some "skip_fixed" ∧ disp? "_read_py.SKIPS" "enum" = some "skip_enum" ∧
    disp? "_read_py.SKIPS" "array" = some "skip_array" ∧ disp? "_read_py.SKIPS" "map" = some "skip_map" ∧
    disp? "_read_py.SKIPS" "union" = some "skip_union" ∧ disp? "_read_py.SKIPS" "record" = some "skip_record" := by
  decide +kernel

end Tables
