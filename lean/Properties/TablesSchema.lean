/-
  Properties/TablesSchema.lean — the name sets and string constants of schema parsing and fingerprinting (Gen/Tables.lean).
  Built by the checks of C11–C14 and by no other.
-/
import Properties.TablesCommon

namespace Tables

theorem name_sets :
    strSet? "_schema_common.PRIMITIVES" = some ["boolean", "bytes", "double", "float", "int", "long", "null", "string"] ∧
    strSet? "const.NAMED_TYPES" = some ["enum", "error", "fixed", "record"] ∧
    Gen.strConsts.lookup "_schema_py.SYMBOL_REGEX" = some "[A-Za-z_][A-Za-z0-9_]*" ∧
    Gen.strConsts.lookup "_schema_common.RABIN_64" = some "CRC-64-AVRO" ∧
    Gen.strMaps.lookup "_schema_common.JAVA_FINGERPRINT_MAPPING" = some [("MD5", "md5"), ("SHA-256", "sha256")] := by
  decide +kernel

end Tables
