/-
  Properties/C20.lean — generate_one / generate_many.

  The library's random source is modelled as an arbitrary oracle (`Generate.Rand`): the theorems
  quantify over *every* oracle, i.e. over every state of the random source.  The conformance theorems speak
  about the values that are returned; termination is claimed for schemas without by-name references only, and
  `c20_nontermination_counterexample` shows it cannot be claimed beyond.  Logical types: harness only.
-/
import Proofs.Generate
import Proofs.GenerateTerm

open Generate GenProofs

/-- **C20.** whatever the oracle returns, a datum `gen_data` returns conforms to the schema (`Spec.conforms`: the
    documented datum/schema mapping that `validate` implements, C10, and that the writers accept, C01/C02), at any
    depth, through by-name references — for plain schemas whose records have pairwise distinct field names,
    none of them `-type` (`Schema.fieldsOk`) -/
theorem c20_generated_conforms (env : Env) (ρ : Rand) (henv : env.fieldsOk = true) (fuel : Nat) (s : Schema) (i : Nat)
    (v : Val) (i' : Nat) (hs : s.fieldsOk = true) (h : genData fuel env ρ s i = .ok (v, i')) :
    Spec.conforms fuel env false false s v = true :=
  (gen_conforms henv s hs h).1

/-- **C20.** `generate_many(schema, n)` yields exactly `n` values -/
theorem c20_exact_count (fuel : Nat) (env : Env) (ρ : Rand) (s : Schema) (n i : Nat) (xs : List Val) (i' : Nat)
    (h : genMany fuel env ρ s n i = .ok (xs, i')) : xs.length = n := by
  induction n generalizing i xs with
  | zero => cases h; rfl
  | succ n ih =>
    simp only [genMany, R.bind_ok_iff, R.pure_ok_iff, Prod.mk.injEq] at h
    obtain ⟨⟨x, i1⟩, _, ⟨ys, i2⟩, h2, rfl, rfl⟩ := h
    simp [ih i1 ys h2]

/-- **C20 (accepted by validate).** whatever the oracle returns, `validate` (non-raising, default options) does not
    answer `False` for a generated datum: whenever it answers, it answers `True` (C10's theorem composed with the
    one above; plain schemas) -/
theorem c20_generated_validates (env : Env) (ρ : Rand) (henv : env.fieldsOk = true) (hpl : env.plain = true) (fuel : Nat)
    (s : Schema) (i : Nat) (v : Val) (i' : Nat) (hs : s.fieldsOk = true) (hp : s.plain = true) (field : String) (b : Bool)
    (h : genData fuel env ρ s i = .ok (v, i'))
    (hv : Validate.validate fuel env { strict := false, disableTuple := false } false field s (some v) = .ok b) : b = true :=
  (ValidateProofs.validate_eq_conforms hpl hp hv).symm.trans
    (c20_generated_conforms env ρ henv fuel s i v i' hs h)

/-! non-vacuity: a record with a union, an enum and an array under a concrete oracle -/
def c20schema : Schema := .record "R" [
  .mk "u" (.union [.prim .null false none, .prim .long false none]) none [],
  .mk "e" (.enum "E" ["A", "B", "C"] none []) none [],
  .mk "xs" (.array (.prim .int false none)) none []] []

example : c20schema.fieldsOk = true ∧ Env.fieldsOk [] = true := by decide
example : (match genData 5 [] (fun k => 7 * k + 3) c20schema 0 with
    | .ok (.dict [(.str "u", _), (.str "e", .str _), (.str "xs", .list xs)], _) => xs.length == 10
    | _ => false) = true := by decide +kernel

/-- non-vacuity of `c20_generated_validates`: the schema is plain and `validate` does answer (`True`) on the generated datum -/
example : c20schema.plain = true ∧ Env.plain [] = true := by decide
#guard (match genData 5 [] (fun k => 7 * k + 3) c20schema 0 with
    | .ok (v, _) => (match Validate.validate 5 [] {} false "" c20schema (some v) with | .ok true => true | _ => false)
    | _ => false)

open GenTerm

/-- **C20 (termination, tree schemas).** on a schema without by-name references `gen_data` returns (a value or a
    ValueError for an empty enum / union), whatever the random source does: a budget of the schema's depth is enough -/
theorem c20_terminates_tree (env : Env) (ρ : Rand) (fuel : Nat) (s : Schema) (ht : treeS s = true) (hd : depthS s ≤ fuel)
    (i : Nat) : genData fuel env ρ s i ≠ .error .fuel := by
  induction fuel generalizing s i with
  | zero => cases s <;> simp [depthS] at hd
  | succ fuel ih =>
    have hr := fun a b => randint_no_fuel a b ρ i
    cases s with
    | prim p df lt =>
      obtain rfl : lt = none := by simpa [treeS] using ht
      cases p <;> first | exact nofun | exact R.bind_ne_error (hr _ _) fun _ => nofun
    | fixed n sz lt al =>
      obtain rfl : lt = none := by simpa [treeS] using ht
      exact nofun
    | enum n syms d al =>
      refine R.bind_ne_error (hr _ _) fun k => ?_
      split <;> exact nofun
    | array items =>
      simp only [treeS] at ht; simp only [depthS] at hd
      exact R.bind_ne_error (items_no_fuel _ (ih items ht (by omega)) _ _) fun _ => nofun
    | map values =>
      simp only [treeS] at ht; simp only [depthS] at hd
      exact R.bind_ne_error (entries_no_fuel _ ρ (ih values ht (by omega)) _ _ _) fun _ => nofun
    | union bs =>
      simp only [treeS] at ht; simp only [depthS] at hd
      refine R.bind_ne_error (hr _ _) fun k => ?_
      split
      · rename_i b hb
        obtain ⟨h1, h2⟩ := treeL_mem ht (List.mem_of_getElem? hb)
        exact ih b h1 (by omega) _
      · exact nofun
    | record n fs al =>
      simp only [treeS] at ht; simp only [depthS] at hd
      refine R.bind_ne_error (fields_no_fuel _ fs (fun f hf j => ?_) _ _) fun _ => nofun
      obtain ⟨h1, h2⟩ := treeF_mem ht hf
      exact ih f.type h1 (by omega) j
    | ref n => simp [treeS] at ht

/-- **F6, as a theorem about the model**: the tree type `Node {children: array<Node>}` is never generated, for every
    oracle, every budget and every position of the oracle -/
theorem c20_nontermination_counterexample (ρ : Rand) (fuel i : Nat) :
    genData fuel c20env ρ (.ref "Node") i = .error .fuel ∧ genData fuel c20env ρ c20node i = .error .fuel :=
  ⟨(never_returns ρ fuel i).1, (never_returns ρ fuel i).2.1⟩

/-! non-vacuity of `c20_terminates_tree`: the schema of the example above is a tree of depth 3 -/
example : treeS c20schema = true ∧ depthS c20schema ≤ 3 := by decide
