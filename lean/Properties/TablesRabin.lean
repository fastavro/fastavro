/-
  Properties/TablesRabin.lean — the fingerprint's start value (Gen/Tables.lean).  Built by the check of C14 and by no other.
-/
import Properties.TablesCommon
import Model.Rabin
namespace Tables

theorem rabin_polynomial : int? "_schema_common.rabin.empty_64" = some (Rabin.EMPTY64 : Int) := by decide +kernel

end Tables
