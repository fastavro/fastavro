/-
  Properties/C17.lean — results depend only on arguments; inputs intact.

  The table `Gen.effects` is regenerated from /repo's source on every run (harness/gen_effects.py): for
  each public entry point the module-level state objects it may read and write (transitively over
  the call graph), which of those it always rewrites before reading, which parameters it may
  mutate, and mutable default arguments it may mutate.  Two obligations on the table, closed by evaluation
  (`c17_table_safe`, `c17_args_intact`), and a theorem about every semantics that respects the table's footprints
  (`c17_history_independent`).
  The table is a syntactic over-approximation, validated dynamically by the harness (snapshots of
  every module-level object and of every argument after every call of generated histories).
-/
import Gen.Effects
import Proofs.Effects

open Effects

def safeTable (es : List Gen.Effect) : Bool :=
  es.all fun e => e.found &&
    e.reads.all fun g => e.writeFirst.contains g || es.all fun e' => !e'.writes.contains g

def argsIntact (es : List Gen.Effect) : Bool :=
  es.all fun e => e.paramWrites.all e.allowedParamWrites.contains && e.mutatedDefaults.isEmpty

/-- the objects whose value before the call can influence it -/
def readsBefore (e : Gen.Effect) : List String := e.reads.filter fun g => !e.writeFirst.contains g

/-- every object an entry point may read before writing it is written by *no* entry point -/
theorem c17_table_safe : safeTable Gen.effects = true := by decide +kernel

/-- an entry point mutates no parameter other than the named-schema dictionary (and output streams / writer metadata), and
    no mutable default -/
theorem c17_args_intact : argsIntact Gen.effects = true := by decide +kernel

theorem safe_of_table {A V Res} (es : List Gen.Effect) (sem : Gen.Effect → Call A V Res)
    (hr : ∀ e, (sem e).reads = readsBefore e) (hw : ∀ e, (sem e).writes = e.writes)
    (htab : safeTable es = true) : Safe (es.map sem) := by
  simp only [safeTable, List.all_eq_true, Bool.and_eq_true, Bool.or_eq_true, Bool.not_eq_true'] at htab
  intro c hc g hg c' hc'
  obtain ⟨e, he, rfl⟩ := List.mem_map.mp hc
  obtain ⟨e', he', rfl⟩ := List.mem_map.mp hc'
  rw [hr, readsBefore, List.mem_filter, Bool.not_eq_true'] at hg
  rw [hw]
  rcases (htab e he).2 g hg.1 with h | h
  · rw [hg.2] at h; cases h
  · simpa using h e' he'

/-- for every semantics of the calls that respects the table's footprints, the result of any call after any history of calls
    equals its result in the initial store — so it equals the result in a fresh interpreter -/
theorem c17_history_independent {A V Res} (sem : Gen.Effect → Call A V Res)
    (hr : ∀ e, (sem e).reads = readsBefore e) (hw : ∀ e, (sem e).writes = e.writes)
    (h : List (Call A V Res × A)) (hh : ∀ ca ∈ h, ca.1 ∈ Gen.effects.map sem) (σ₀ : Obj → V)
    (e : Gen.Effect) (he : e ∈ Gen.effects) (a : A) :
    ((sem e).run a (exec σ₀ h)).1 = ((sem e).run a σ₀).1 :=
  history_independent (Gen.effects.map sem) (safe_of_table Gen.effects sem hr hw c17_table_safe) h hh σ₀ (sem e)
    (List.mem_map.mpr ⟨e, he, rfl⟩) a

/-! non-vacuity: a two-object machine in which one call rewrites its scratch object before reading it -/
def demoCall : Call Nat Nat Nat where
  reads := ["table"]
  writes := ["scratch"]
  run := fun a σ => (a + σ "table", fun g => if g = "scratch" then a else σ g)
  frame := by intro a σ g hg; simp only [List.mem_singleton] at hg; simp [hg]
  dep := by intro a σ σ' h; simp [h "table" (by simp)]

example : Safe [demoCall] := by unfold Safe; decide
