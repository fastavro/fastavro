/-
  Properties/C12.lean — raw, parsed and piecewise-parsed schemas.

  Every public operation starts with `parse_schema(schema, named_schemas)` and then works on the
  pair (parsed schema, named-schema dictionary) only.  Proved: a marked object comes back as it is
  (`c12_marked_returned_unchanged`); a name stands for the dictionary's definition in every operation
  (`c12_name_is_definition_*`), whatever else the dictionary holds (`c12_later_definitions_harmless`); parsing a
  definition makes it the dictionary's entry under its name (`c12_piece_is_entry`, `c12_piece_then_name`).
  NOT proved: that `parse_schema` of the inlined schema and of the pieces fills the dictionary with
  the same definitions for the *other* names (checked by the harness: same bytes / values / validation verdicts for raw,
  parsed, twice-parsed and piecewise forms), and idempotence for unmarked parsed forms (harness).
  Known finding F4: canonical form and container header of a piecewise-parsed schema.
-/
import Proofs.Stable
import Proofs.Parse

open Parse Binary

def EnvDistinct (env : Env) : Prop := (env.map Prod.fst).Nodup

theorem foldl_set_append : ∀ (named pre : Env), EnvDistinct (pre ++ named) →
    named.foldl (fun e kv => e.set kv.1 kv.2) pre = pre ++ named
  | [], pre, _ => (List.append_nil pre).symm
  | kv :: rest, pre, hd => by
    have hdis : ∀ a ∈ pre.map Prod.fst, ∀ b ∈ (kv :: rest).map Prod.fst, a ≠ b := by
      rw [EnvDistinct, List.map_append] at hd; exact (List.nodup_append.1 hd).2.2
    have hfresh : ∀ p ∈ pre, p.1 ≠ kv.1 := fun p hp => hdis _ (List.mem_map_of_mem hp) _ List.mem_cons_self
    rw [List.foldl_cons, Env.set_fresh _ hfresh, foldl_set_append rest _ (by rw [List.append_assoc]; exact hd), List.append_assoc]; rfl

/-- **C12 (parsed ≡ raw for marked objects).** an object that carries the parsed marker is returned as it is, and its
    dictionary is reproduced in a fresh one: every operation sees the same pair as the call that produced it -/
theorem c12_marked_returned_unchanged (fuel : Nat) (s : Schema) (named : Env) (hd : EnvDistinct named) :
    parseSchema fuel (.marked s named) [] = .ok (s, named) := by
  rw [parseSchema, foldl_set_append named [] hd]; rfl

/-- **C12 (a name is its definition).** where a schema refers to a named type by name, each operation does exactly what it
    does on the definition the dictionary holds, so a piecewise-parsed schema (names only) and the inlined schema are
    indistinguishable to the codec and the validator as long as the dictionary holds the same definitions — reading … -/
theorem c12_name_is_definition_read (fuel : Nat) (env : Env) (ro : ROpts) (n : String) (d : Schema) (bs : Bytes)
    (h : env.get? n = some d) : readData (fuel+1) env ro (.ref n) bs = readData fuel env ro d bs := by
  simp only [readData, h]

/-- … writing … -/
theorem c12_name_is_definition_write (fuel : Nat) (env : Env) (o : WOpts) (n : String) (d : Schema) (v : Val)
    (h : env.get? n = some d) : writeData (fuel+1) env o (.ref n) v = writeData fuel env o d v := by
  simp only [writeData, h]

/-- … skipping … -/
theorem c12_name_is_definition_skip (fuel : Nat) (env : Env) (n : String) (d : Schema) (bs : Bytes)
    (h : env.get? n = some d) : skipData (fuel+1) env (.ref n) bs = skipData fuel env d bs := by
  simp only [skipData, h]

/-- … validating (any datum that is present) -/
theorem c12_name_is_definition_validate (fuel : Nat) (env : Env) (o : VOpts) (re : Bool) (field : String) (n : String)
    (d : Schema) (v : Val) (h : env.get? n = some d) :
    Validate.validateNode (Validate.validate fuel env o re) env o field (.ref n) v =
      Validate.validate fuel env o re field d (some v) := by
  simp only [Validate.validateNode, h]

/-- **C12 (shared dictionary).** further definitions in the shared dictionary (pieces parsed before or after) never change
    the result of reading or skipping -/
theorem c12_later_definitions_harmless (env env' : Env) (hle : EnvMono.EnvLe env env') (ro : ROpts) (fuel : Nat)
    (s : Schema) (bs : Bytes) :
    (∀ r, readData fuel env ro s bs = .ok r → readData fuel env' ro s bs = .ok r) ∧
    (∀ r, skipData fuel env s bs = .ok r → skipData fuel env' s bs = .ok r) :=
  ⟨Stable.readData_mono_env hle ro (Nat.le_refl fuel) s bs, Stable.skipData_mono_env hle (Nat.le_refl fuel) s bs⟩

/-- **C12 (a piece is the dictionary's entry).** parsing a named-type definition (a piece, or the same definition met
    inline) leaves the dictionary mapping its full name to exactly the parsed definition returned … -/
theorem c12_piece_is_entry (fuel : Nat) (kv : List (Val × Val)) (ns ty : String) (st st' : St) (dflt : Option Val)
    (ign : Bool) (lt : Option LogT) (s : Schema)
    (hty : dictType kv = .ok ty) (hl : parseLogical kv (ty == "fixed") = .ok lt)
    (hnamed : ty = "enum" ∨ ty = "fixed" ∨ ty = "record")
    (h : parse (fuel+1) (.dict kv) ns st dflt ign = .ok (s, st')) :
    ∃ ns' full, schemaName kv ns = .ok (ns', full) ∧ st'.env.get? full = some s ∧ s.defName? = some full :=
  have ⟨ns', full, h1, _, _, h2, h3⟩ := definition_ok hty hl hnamed h
  ⟨ns', full, h1, h2, h3⟩

/-- … so a reference to the piece by name behaves like the definition in the codec -/
theorem c12_piece_then_name (fuel : Nat) (kv : List (Val × Val)) (ns ty : String) (st st' : St) (dflt : Option Val)
    (ign : Bool) (lt : Option LogT) (s : Schema)
    (hty : dictType kv = .ok ty) (hl : parseLogical kv (ty == "fixed") = .ok lt)
    (hnamed : ty = "enum" ∨ ty = "fixed" ∨ ty = "record")
    (h : parse (fuel+1) (.dict kv) ns st dflt ign = .ok (s, st')) :
    ∃ full, ∀ (f : Nat) (ro : ROpts) (o : WOpts) (bs : Bytes) (v : Val),
      readData (f+1) st'.env ro (.ref full) bs = readData f st'.env ro s bs ∧
      writeData (f+1) st'.env o (.ref full) v = writeData f st'.env o s v ∧
      skipData (f+1) st'.env (.ref full) bs = skipData f st'.env s bs := by
  obtain ⟨_, full, _, hg, _⟩ := c12_piece_is_entry fuel kv ns ty st st' dflt ign lt s hty hl hnamed h
  exact ⟨full, fun f ro o bs v => ⟨c12_name_is_definition_read f _ ro full s bs hg,
    c12_name_is_definition_write f _ o full s v hg, c12_name_is_definition_skip f _ full s bs hg⟩⟩

/-! non-vacuity: a dictionary with distinct names (`EnvDistinct`), and one extended by a definition parsed earlier (`EnvLe`) -/
example : EnvDistinct [("a.R", .record "a.R" [] []), ("E", .enum "E" ["A"] none [])] := by
  simp [EnvDistinct]
example : EnvMono.EnvLe [("E", .enum "E" ["A"] none [])] [("a.R", .record "a.R" [] []), ("E", .enum "E" ["A"] none [])] := by
  intro n s h
  simp only [Env.get?] at h ⊢
  split at h
  · cases beq_iff_eq.mp ‹("E" == n) = true›; exact h
  · cases h
