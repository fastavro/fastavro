/-
  Properties/TablesGenerate.lean — obligations on the integer ranges `gen_data` draws from
  (`Gen.genRanges`, regenerated from fastavro/utils.py on every run): each range is non-empty and
  lies inside the domain on which the type — for logical types: the logical reader and writer of
  C16 — is defined.  An off-by-one error at an end of a range has probability ~1e-11 per draw and
  cannot be found by sampling; here it is a failed obligation.  Built by the check of C20 and by no other.
-/
import Gen.Tables

namespace Tables

/-- the admissible range per (type, logical type) -/
def genDomain : String → String → Option (Int × Int)
  | "int", "" => some (-2147483648, 2147483647)
  | "long", "" => some (-9223372036854775808, 9223372036854775807)
  | "int", "int-date" => some (1 - 719163, 3652059 - 719163)               -- date.min … date.max as days since the epoch
  | "int", "int-time-millis" => some (0, 86400000 - 1)                      -- a time of day
  | "long", "long-time-micros" => some (0, 86400000000 - 1)
  | "long", "long-timestamp-millis" => some (-62135596800000, 253402300799999)            -- datetime.min … datetime.max
  | "long", "long-local-timestamp-millis" => some (-62135596800000, 253402300799999)
  | "long", "long-timestamp-micros" => some (-62135596800000000, 253402300799999999)
  | "long", "long-local-timestamp-micros" => some (-62135596800000000, 253402300799999999)
  | _, _ => none

def rangeOk (e : String × String × Int × Int) : Bool :=
  match genDomain e.1 e.2.1 with
  | some (lo, hi) => decide (e.2.2.1 ≤ e.2.2.2) && decide (lo ≤ e.2.2.1) && decide (e.2.2.2 ≤ hi)
  | none => false

/-- the plain `int` / `long` ranges are exactly the full ranges (the model generator uses them) -/
def plainExact (es : List (String × String × Int × Int)) : Bool :=
  es.contains ("int", "", -2147483648, 2147483647) && es.contains ("long", "", -9223372036854775808, 9223372036854775807)

theorem generate_ranges : Gen.genRanges.all rangeOk = true ∧ plainExact Gen.genRanges = true := by decide +kernel

end Tables
