/-
  Proofs/R.lean — the result monad `R = Except Err`: how `>>=`, `pure` and `throw` compute, and the
  relation `Sim T x y` ("wherever `x` succeeds, `y` succeeds with `T` of its result") that every
  stability statement about the readers is an instance of; `Covers x y` is the same for a partial specification
  `x : Option α` against a computation `y`.
-/
import Model.Basic

namespace R

theorem ok_bind {α β} (a : α) (f : α → R β) : ((Except.ok a : R α) >>= f) = f a := rfl
theorem error_bind {α β} (e : Err) (f : α → R β) : ((Except.error e : R α) >>= f) = .error e := rfl
theorem pure_bind {α β} (a : α) (f : α → R β) : ((pure a : R α) >>= f) = f a := rfl
theorem pure_eq {α} (a : α) : (pure a : R α) = .ok a := rfl
theorem throw_eq {α} (e : Err) : (throw e : R α) = .error e := rfl

theorem bind_ok_iff {α β} (x : R α) (f : α → R β) (r : β) :
    (x >>= f) = .ok r ↔ ∃ a, x = .ok a ∧ f a = .ok r := by
  cases x with
  | error e => simp [error_bind]
  | ok a => simp [ok_bind]

theorem pure_ok_iff {α} (a r : α) : (pure a : R α) = .ok r ↔ a = r := by
  simp [pure_eq]

theorem ite_error_ok_iff {α} {c : Prop} [Decidable c] {e : Err} {x : R α} {r : α} :
    (if c then .error e else x) = .ok r ↔ ¬c ∧ x = .ok r := by
  split <;> simp [*]

theorem throw_ne_ok {α} (e : Err) (r : α) : (throw e : R α) = .ok r ↔ False := by
  simp [throw_eq]

theorem bind_ne_error {α β} {x : R α} {f : α → R β} {e : Err} (hx : x ≠ .error e) (hf : ∀ a, f a ≠ .error e) :
    x >>= f ≠ .error e := by
  cases x with
  | error e' => intro h; cases h; exact hx rfl
  | ok a => exact hf a

def Sim {α β} (T : α → β) (x : R α) (y : R β) : Prop := ∀ a, x = .ok a → y = .ok (T a)

namespace Sim
variable {α β γ δ : Type} {T : α → β} {U : γ → δ}

theorem refl (x : R α) : Sim id x x := fun _ h => h

theorem pure (a : α) : Sim T (Pure.pure a) (Pure.pure (T a)) := by
  intro b h; cases h; rfl

theorem ok (a : α) : Sim T (.ok a) (.ok (T a)) := by
  intro b h; cases h; rfl

theorem error {e : Err} {y : R β} : Sim T (.error e) y := fun _ h => nomatch h

theorem throw {e : Err} {y : R β} : Sim T (throw e) y := fun _ h => nomatch h

theorem ok_of_ok {x : R α} {y : R β} {a : α} (h : Sim T x y) (hx : x = .ok a) : y = .ok (T a) := h a hx

theorem bind' {x : R α} {y : R β} {k : α → R γ} {k' : β → R δ}
    (hx : Sim T x y) (hk : ∀ a, x = .ok a → Sim U (k a) (k' (T a))) : Sim U (x >>= k) (y >>= k') := by
  intro c h
  obtain ⟨a, ha, hc⟩ := (bind_ok_iff ..).1 h
  rw [hx a ha]; exact hk a ha c hc

theorem bind {x : R α} {y : R β} {k : α → R γ} {k' : β → R δ}
    (hx : Sim T x y) (hk : ∀ a, Sim U (k a) (k' (T a))) : Sim U (x >>= k) (y >>= k') :=
  hx.bind' fun a _ => hk a

theorem bind_left {x : R α} {y : R β} {k : α → R γ} {V : γ → β}
    (hx : Sim T x y) (hk : ∀ a c, k a = .ok c → V c = T a) : Sim V (x >>= k) y := by
  intro c h
  obtain ⟨a, ha, hc⟩ := (bind_ok_iff ..).1 h
  rw [hx a ha, hk a c hc]

theorem bind_right {x : R α} {y : R β} {k' : β → R δ} {V : α → δ}
    (hx : Sim T x y) (hk : ∀ a, k' (T a) = .ok (V a)) : Sim V x (y >>= k') := by
  intro a h
  rw [hx a h]; exact hk a

end Sim

end R

/-- `m` is `Option` (specification against specification) or `R` (specification against model) -/
def Covers {m : Type → Type} [Monad m] {α : Type} (x : Option α) (y : m α) : Prop := ∀ a, x = some a → y = pure a

namespace Covers
variable {m : Type → Type} [Monad m] {α β : Type}

theorem of_none {y : m α} : Covers none y := fun _ h => nomatch h
theorem of_some (a : α) : Covers (some a) (pure a : m α) := fun _ h => by cases h; rfl
theorem refl {x : Option α} : Covers x x := fun _ h => h

variable [LawfulMonad m]

theorem bind {x : Option α} {y : m α} {k : α → Option β} {k' : α → m β} (hx : Covers x y) (hk : ∀ a, Covers (k a) (k' a)) :
    Covers (x >>= k) (y >>= k') := by
  intro b h
  obtain ⟨a, ha, hb⟩ := Option.bind_eq_some_iff.1 h
  rw [hx a ha, LawfulMonad.pure_bind]; exact hk a b hb

theorem map {x : Option α} {y : m α} (f : α → β) (hx : Covers x y) : Covers (x.map f) (y >>= fun a => pure (f a)) := by
  intro b h
  obtain ⟨a, ha, rfl⟩ := Option.map_eq_some_iff.1 h
  rw [hx a ha, LawfulMonad.pure_bind]

theorem omap {x y : Option α} (f : α → β) (hx : Covers x y) : Covers (x.map f) (y.map f) := by
  intro b h
  obtain ⟨a, ha, rfl⟩ := Option.map_eq_some_iff.1 h
  rw [hx a ha]; rfl

protected theorem some {x y : Option α} {a : α} (h : Covers x y) (hx : x = some a) : y = some a := h a hx
theorem ok {x : Option α} {y : R α} {a : α} (h : Covers x y) (hx : x = some a) : y = .ok a := h a hx

end Covers
