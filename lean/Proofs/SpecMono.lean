/-
  Proofs/SpecMono.lean — the specification reader of Spec/Resolve.lean is monotone for `NonFuel.Le`: its field loop in
  the two readers it is given, the reader itself in its fuel.
-/
import Proofs.Resolve
import Proofs.NonFuel

namespace SpecMono
open Binary NonFuel

theorem fieldsWith_le {rd rd' : Schema → Schema → Bytes → R (Val × Bytes)} {sk sk' : Schema → Bytes → R Bytes} (rfs : List Field)
    (hs : ∀ s bs, Le (sk s bs) (sk' s bs)) :
    ∀ wfs : List Field, (∀ wf ∈ wfs, ∀ rf ∈ rfs, ∀ bs, Le (rd wf.type rf.type bs) (rd' wf.type rf.type bs)) →
      ∀ bs acc, Le (Spec.fieldsWith rd sk rfs wfs bs acc) (Spec.fieldsWith rd' sk' rfs wfs bs acc)
  | [], _, _, _ => Le.refl
  | f :: rest, hr, bs, acc => by
    have ih := fieldsWith_le rfs hs rest fun wf h => hr wf (List.mem_cons_of_mem _ h)
    simp only [Spec.fieldsWith]
    cases hf : Spec.readerFieldFor rfs f.name with
    | none => exact Le.bind (hs _ _) fun _ _ => ih _ _
    | some rf => exact Le.bind (hr f List.mem_cons_self rf (ResolveProofs.readerFieldFor_mem hf) bs) fun _ _ => ih _ _

theorem def_idx {α β} (o : Option α) (e : R β) (f g : α → R β) (h : ∀ a, o = some a → Def (f a) → g a = f a)
    (hd : Def (match o with | none => e | some a => f a)) :
    (match o with | none => e | some a => g a) = (match o with | none => e | some a => f a) := by
  cases o with
  | none => rfl
  | some a => exact h a rfl hd

theorem resolveRead_def (wenv renv : Env) (F : Nat) :
    ∀ w r, Refines (Spec.resolveRead F wenv renv w r) (Spec.resolveRead (F+1) wenv renv w r) := by
  induction F with
  | zero => exact fun _ _ _ => Le.fuel
  | succ F ih =>
    intro w r bs
    show Le _ _
    rw [Spec.resolveRead, Spec.resolveRead]
    split
    · exact Le.refl
    · cases Spec.deref wenv w with
      | none => exact Le.refl
      | some wd =>
        cases Spec.deref renv r with
        | none => exact Le.refl
        | some rd =>
          -- the arms of the specification's own `match` on the two definitions, in its order: writer union, reader union,
          -- prim, fixed, enum, array, map, record, any other pair
          simp only []
          split
          · refine Le.bind_right fun x _ => ?_
            cases indexChecked _ x.1 <;> first | exact Le.refl | exact ih _ _ _
          · cases Spec.pickBranch wenv renv _ _ <;> first | exact Le.refl | exact ih _ _ _
          · exact Le.refl
          · exact Le.refl
          · exact Le.refl
          · exact Le.bind_right fun _ _ => Le.bind (blocks_le (ih _ _) _ _ _) fun _ _ => Le.refl
          · exact Le.bind_right fun _ _ => Le.bind (mapBlocks_le (ih _ _) _ _ _ _) fun _ _ => Le.refl
          · exact Le.bind (fieldsWith_le _ (skipData_def wenv F) _ (fun _ _ _ _ => ih _ _) _ _) fun _ _ => Le.refl
          · exact Le.refl

/-- More fuel never changes a definite result of the specification reader: the result that `c08_resolve_eq_spec` names
    with its `∃ fuel'` does not depend on the fuel chosen. -/
theorem resolveRead_le {wenv renv : Env} {F G : Nat} (h : F ≤ G) (w r : Schema) (bs : Bytes) :
    Le (Spec.resolveRead F wenv renv w r bs) (Spec.resolveRead G wenv renv w r bs) := by
  induction h with
  | refl => exact Le.refl
  | step _ ih => exact ih.trans (resolveRead_def wenv renv _ w r bs)

end SpecMono
