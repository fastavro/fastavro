/-
  Proofs/Stable.lean — a successful read or skip stays the same read or skip when the nesting budget
  grows, when the named-schema table gains definitions and when bytes are appended to the input (which
  are then left behind): reads are length-checked and strictly left to right.
-/
import Model.Binary
import Proofs.R

namespace EnvMono

def EnvLe (env env' : Env) : Prop := ∀ n s, env.get? n = some s → env'.get? n = some s

theorem EnvLe.refl (env : Env) : EnvLe env env := fun _ _ h => h

end EnvMono

namespace Stable
open Binary R EnvMono

def after {α} (q : Bytes) (x : α × Bytes) : α × Bytes := (x.1, x.2 ++ q)

def Ext {α} (q : Bytes) (rd rd' : Bytes → R (α × Bytes)) : Prop :=
  ∀ p, Sim (after q) (rd p) (rd' (p ++ q))

def ExtS (q : Bytes) (sk sk' : Bytes → R Bytes) : Prop := ∀ p, Sim (· ++ q) (sk p) (sk' (p ++ q))

variable {q : Bytes}

/-- no proper prefix can be read: what its read leaves over, followed by `q`, would be empty -/
theorem prefix_free {α} {x y : R (α × Bytes)} (h : Sim (after q) x y) {a : α} (hy : y = .ok (a, [])) (hq : q ≠ []) :
    ∃ e, x = .error e := by
  cases hx : x with
  | error e => exact ⟨e, rfl⟩
  | ok r =>
    have e : (r.1, r.2 ++ q) = (a, []) := Except.ok.inj ((h r hx).symm.trans hy)
    exact absurd (List.append_eq_nil_iff.1 (congrArg Prod.snd e)).2 hq

theorem prefix_freeS {x y : R Bytes} (h : Sim (· ++ q) x y) (hy : y = .ok []) (hq : q ≠ []) : ∃ e, x = .error e := by
  cases hx : x with
  | error e => exact ⟨e, rfl⟩
  | ok r =>
    have e : r ++ q = [] := Except.ok.inj ((h r hx).symm.trans hy)
    exact absurd (List.append_eq_nil_iff.1 e).2 hq

theorem takeN_ext {n : Nat} {p h r : Bytes} (hh : takeN n p = some (h, r)) :
    takeN n (p ++ q) = some (h, r ++ q) := by
  unfold takeN at hh ⊢
  split at hh
  · cases hh
  · cases hh
    have hn : n ≤ p.length := by omega
    rw [if_neg (by simp only [List.length_append]; omega), List.take_append_of_le_length hn,
      List.drop_append_of_le_length hn]

theorem take_ext {α} (n : Nat) (f : Bytes → α) (p : Bytes) :
    Sim (after q) (match takeN n p with | none => .error .eof | some (h, r) => .ok (f h, r))
      (match takeN n (p ++ q) with | none => .error .eof | some (h, r) => .ok (f h, r)) := by
  cases ht : takeN n p with
  | none => exact .error
  | some hr => rw [takeN_ext ht]; exact .ok _

theorem loop_ext : ∀ p acc shift, Sim (after q) (decodeVarintLoop acc shift p) (decodeVarintLoop acc shift (p ++ q))
  | [], _, _ => .error
  | b :: p, _, _ => by
    simp only [List.cons_append, decodeVarintLoop]
    split
    · exact loop_ext p _ _
    · exact .ok _

theorem decodeLong_ext : Ext q decodeLong decodeLong
  | [] => .error
  | b :: p => by
    simp only [List.cons_append, decodeLong]
    split
    · exact (loop_ext p _ _).bind fun _ => .pure _
    · exact .ok _

theorem decBool_ext : Ext q decBool decBool
  | [] => .error
  | _ :: _ => .ok _

theorem decFloat_ext : Ext q decFloat decFloat := take_ext 4 _
theorem decDouble_ext : Ext q decDouble decDouble := take_ext 8 _
theorem decFixed_ext (n : Nat) : Ext q (decFixed n) (decFixed n) := take_ext n _

theorem decBytesRaw_ext : Ext q decBytesRaw decBytesRaw := fun p =>
  (decodeLong_ext p).bind fun (n, r) => by
    show Sim _ (if n < 0 then _ else _) (if n < 0 then _ else _)
    split
    · exact .error
    · exact take_ext n.toNat id r

theorem decUtf8Raw_ext : Ext q decUtf8Raw decUtf8Raw := fun p =>
  (decBytesRaw_ext p).bind fun (b, r) => by
    show Sim _ (match utf8Dec b with | some s => _ | none => _) (match utf8Dec b with | some s => _ | none => _)
    split
    · exact .pure _
    · exact .throw

theorem readPrim_ext (pr : Prim) : Ext q (readPrim pr) (readPrim pr) := fun p => by
  cases pr with
  | null => exact .pure _
  | boolean => exact decBool_ext p
  | int | long => exact (decodeLong_ext p).bind fun _ => .pure _
  | float => exact decFloat_ext p
  | double => exact decDouble_ext p
  | bytes => exact (decBytesRaw_ext p).bind fun _ => .pure _
  | string => exact (decUtf8Raw_ext p).bind fun _ => .pure _

theorem blockCount_ext (c : Int) : Ext q (blockCount c) (blockCount c) := fun p => by
  unfold blockCount
  split
  · exact (decodeLong_ext p).bind fun _ => .pure _
  · exact .pure _

section loops
variable {rd rd' : Bytes → R (Val × Bytes)} (h : Ext q rd rd')
include h

theorem readItemsWith_ext : ∀ n, Ext q (readItemsWith rd n) (readItemsWith rd' n)
  | 0, _ => .pure _
  | n+1, p => (h p).bind fun _ => (readItemsWith_ext n _).bind fun _ => .pure _

theorem readBlocksWith_ext : ∀ k k', k ≤ k' → ∀ c, Ext q (readBlocksWith rd k c) (readBlocksWith rd' k' c)
  | 0, _, _, _, _ => .error
  | k+1, k'+1, hk, c, p => by
    simp only [readBlocksWith]
    split
    · exact .pure _
    · exact (blockCount_ext c p).bind fun _ => (readItemsWith_ext h _ _).bind fun _ =>
        (decodeLong_ext _).bind fun _ => (readBlocksWith_ext k k' (by omega) _ _).bind fun _ => .pure _

theorem readEntriesWith_ext : ∀ n p acc,
    Sim (after q) (readEntriesWith rd n p acc) (readEntriesWith rd' n (p ++ q) acc)
  | 0, _, _ => .pure _
  | n+1, p, _ => (decUtf8Raw_ext p).bind fun _ => (h _).bind fun _ => readEntriesWith_ext n _ _

theorem readMapBlocksWith_ext : ∀ k k', k ≤ k' → ∀ c p acc,
    Sim (after q) (readMapBlocksWith rd k c p acc) (readMapBlocksWith rd' k' c (p ++ q) acc)
  | 0, _, _, _, _, _ => .error
  | k+1, k'+1, hk, c, p, acc => by
    simp only [readMapBlocksWith]
    split
    · exact .pure _
    · exact (blockCount_ext c p).bind fun _ => (readEntriesWith_ext h _ _ _).bind fun _ =>
        (decodeLong_ext _).bind fun _ => readMapBlocksWith_ext k k' (by omega) _ _ _

end loops

theorem readFieldsWith_ext {rd rd' : Schema → Bytes → R (Val × Bytes)} (h : ∀ s, Ext q (rd s) (rd' s)) :
    ∀ fs p acc, Sim (after q) (readFieldsWith rd fs p acc) (readFieldsWith rd' fs (p ++ q) acc)
  | [], _, _ => .pure _
  | f :: fs, p, _ => (h f.type p).bind fun _ => readFieldsWith_ext h fs _ _

section skiploops
variable {sk sk' : Bytes → R Bytes} (h : ExtS q sk sk')
include h

theorem skipItemsWith_ext (isMap : Bool) : ∀ n, ExtS q (skipItemsWith sk isMap n) (skipItemsWith sk' isMap n)
  | 0, _ => .pure _
  | n+1, p => by
    have key : Sim (· ++ q) (if isMap then do let (_, r) ← decUtf8Raw p; pure r else pure p : R Bytes)
        (if isMap then do let (_, r) ← decUtf8Raw (p ++ q); pure r else pure (p ++ q) : R Bytes) := by
      split
      · exact (decUtf8Raw_ext p).bind fun _ => .pure _
      · exact .pure _
    exact key.bind fun _ => (h _).bind fun _ => skipItemsWith_ext isMap n _

theorem skipBlocksWith_ext (isMap : Bool) : ∀ k k', k ≤ k' → ∀ c,
    ExtS q (skipBlocksWith sk isMap k c) (skipBlocksWith sk' isMap k' c)
  | 0, _, _, _, _ => .error
  | k+1, k'+1, hk, c, p => by
    simp only [skipBlocksWith]
    split
    · exact .pure _
    · exact (blockCount_ext c p).bind fun _ => (skipItemsWith_ext h isMap _ _).bind fun _ =>
        (decodeLong_ext _).bind fun _ => skipBlocksWith_ext isMap k k' (by omega) _ _

end skiploops

theorem skipFieldsWith_ext {sk sk' : Schema → Bytes → R Bytes} (h : ∀ s, ExtS q (sk s) (sk' s)) :
    ∀ fs, ExtS q (skipFieldsWith sk fs) (skipFieldsWith sk' fs)
  | [], _ => .pure _
  | f :: fs, p => (h f.type p).bind fun _ => skipFieldsWith_ext h fs _

theorem get_of_read_ref {f env ro n p x} (h : readData f env ro (.ref n) p = .ok x) : ∃ d, env.get? n = some d := by
  cases f with
  | zero => cases h
  | succ f =>
    simp only [readData] at h
    cases hg : env.get? n with
    | none => rw [hg] at h; cases h
    | some d => exact ⟨d, rfl⟩

/-- the `return_*` decision looks a branch up in the table only if it is a name, which the read resolved -/
theorem wrap_env {env env' : Env} (hle : EnvLe env env') {f ro b p x} (h : readData f env ro b p = .ok x)
    (bs : List Schema) (v : Val) : wrapUnionResult env' ro bs b v = wrapUnionResult env ro bs b v := by
  cases b with
  | ref n =>
    obtain ⟨d, hd⟩ := get_of_read_ref h
    simp only [wrapUnionResult, hd, hle n d hd]
  | _ => rfl

theorem readData_stable {env env' : Env} (hle : EnvLe env env') (ro : ROpts) (q : Bytes) :
    ∀ f g, f ≤ g → ∀ s, Ext q (readData f env ro s) (readData g env' ro s)
  | 0, _, _, _, _ => .error
  | f+1, g+1, hfg, s, p => by
    have ih := readData_stable hle ro q f g (by omega)
    cases s with
    | prim pr df lt =>
      simp only [readData]
      refine (readPrim_ext pr p).bind fun _ => ?_
      split
      · exact (Sim.refl _).bind fun _ => .pure _
      · exact .pure _
    | fixed n sz lt al =>
      simp only [readData]
      exact (decFixed_ext sz p).bind fun _ => (Sim.refl _).bind fun _ => .pure _
    | enum n syms d al =>
      simp only [readData]
      refine (decodeLong_ext p).bind fun _ => ?_
      -- with `after` unfolded both `match`es scrutinise the same `indexChecked syms x.1`, and one `split` serves both
      dsimp only [after]
      split
      · exact .pure _
      · exact .throw
    | array items =>
      simp only [readData]
      -- the block loop's bound is the length of what is left, which `q` lengthens: hence `k ≤ k'` in the `…BlocksWith_ext`
      exact (decodeLong_ext p).bind fun _ =>
        (readBlocksWith_ext (ih items) _ _ (by simp [after]) _ _).bind fun _ => .pure _
    | map values =>
      simp only [readData]
      exact (decodeLong_ext p).bind fun _ =>
        (readMapBlocksWith_ext (ih values) _ _ (by simp [after]) _ _ _).bind fun _ => .pure _
    | union branches =>
      simp only [readData]
      refine (decodeLong_ext p).bind fun _ => ?_
      dsimp only [after]
      split
      · exact .throw
      · exact (ih _ _).bind' fun _ hv => by rw [wrap_env hle hv]; exact (Sim.refl _).bind fun _ => .pure _
    | record n fields al =>
      simp only [readData]
      exact (readFieldsWith_ext ih _ _ _).bind fun _ => .pure _
    | ref n =>
      simp only [readData]
      cases hg : env.get? n with
      | none => exact .throw
      | some s' => rw [hle n s' hg]; exact ih s' p

theorem skipPrim_ext (pr : Prim) : ExtS q (skipPrim pr) (skipPrim pr) := fun p => by
  cases pr with
  | null => exact .pure _
  | boolean => exact (decBool_ext p).bind fun _ => .pure _
  | int | long => exact (decodeLong_ext p).bind fun _ => .pure _
  | float => exact (decFloat_ext p).bind fun _ => .pure _
  | double => exact (decDouble_ext p).bind fun _ => .pure _
  | bytes => exact (decBytesRaw_ext p).bind fun _ => .pure _
  | string => exact (decUtf8Raw_ext p).bind fun _ => .pure _

theorem skipData_stable {env env' : Env} (hle : EnvLe env env') (q : Bytes) :
    ∀ f g, f ≤ g → ∀ s, ExtS q (skipData f env s) (skipData g env' s)
  | 0, _, _, _, _ => .error
  | f+1, g+1, hfg, s, p => by
    have ih := skipData_stable hle q f g (by omega)
    cases s with
    | prim pr df lt => exact skipPrim_ext pr p
    | fixed n sz lt al => exact (decFixed_ext sz p).bind fun _ => .pure _
    | enum n syms d al => exact (decodeLong_ext p).bind fun _ => .pure _
    | array items =>
      simp only [skipData]
      exact (decodeLong_ext p).bind fun _ => skipBlocksWith_ext (ih items) _ _ _ (by simp [after]) _ _
    | map values =>
      simp only [skipData]
      exact (decodeLong_ext p).bind fun _ => skipBlocksWith_ext (ih values) _ _ _ (by simp [after]) _ _
    | union branches =>
      simp only [skipData]
      refine (decodeLong_ext p).bind fun _ => ?_
      dsimp only [after]
      split
      · exact .throw
      · exact ih _ _
    | record n fields al =>
      simp only [skipData]
      exact skipFieldsWith_ext ih _ _
    | ref n =>
      simp only [skipData]
      cases hg : env.get? n with
      | none => exact .throw
      | some s' => rw [hle n s' hg]; exact ih s' p

theorem readData_ext (env : Env) (ro : ROpts) (f : Nat) (s : Schema) (p : Bytes) (v : Val) (r q : Bytes)
    (h : readData f env ro s p = .ok (v, r)) : readData f env ro s (p ++ q) = .ok (v, r ++ q) :=
  (readData_stable (.refl env) ro q f f (Nat.le_refl f) s p).ok_of_ok h

theorem skipData_ext (env : Env) (f : Nat) (s : Schema) (p r q : Bytes)
    (h : skipData f env s p = .ok r) : skipData f env s (p ++ q) = .ok (r ++ q) :=
  (skipData_stable (.refl env) q f f (Nat.le_refl f) s p).ok_of_ok h

theorem readData_mono_env {env env' : Env} (hle : EnvLe env env') (ro : ROpts) {f g : Nat} (hfg : f ≤ g) (s : Schema)
    (bs : Bytes) (r) (h : readData f env ro s bs = .ok r) : readData g env' ro s bs = .ok r := by
  simpa [after] using (readData_stable hle ro [] f g hfg s bs).ok_of_ok h

theorem skipData_mono_env {env env' : Env} (hle : EnvLe env env') {f g : Nat} (hfg : f ≤ g) (s : Schema)
    (bs : Bytes) (r) (h : skipData f env s bs = .ok r) : skipData g env' s bs = .ok r := by
  simpa using (skipData_stable hle [] f g hfg s bs).ok_of_ok h

end Stable
