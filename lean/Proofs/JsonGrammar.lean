/-
  Proofs/JsonGrammar.lean — what the two sides of the JSON machine (Proofs/JsonMachine.lean: writer,
  Proofs/JsonMachineDec.lean: reader) share: `Parser.advance` (Model/JsonMachine.lean: `advS`/`advL`) over a stack that
  starts with pending actions, for ANY action function (the two sides put in `encAct` and `decAct`), up to `Behaves`; and
  the grammar as an inductive relation, `Gram`: what `Parser._parse` builds (`build_gram`) provided the recursion guard of
  `_process_record` stays off (`noSelf`), so that no production is forced to null.
-/
import Model.JsonMachine
import Proofs.R

namespace JMProofs
open JM Binary Json

/-- the actions that are executed (`EnumLabels` is popped by `write_enum` / `read_enum`, never executed) -/
def simple : Sym → Bool
  | .unionEnd | .recordStart _ | .recordEnd | .fieldStart _ | .fieldEnd => true
  | _ => false

section advance
variable {σ : Type} (act : Sym → σ → R σ) (k : TK)

def run : List Sym → σ → R σ
  | [], e => .ok e
  | a :: as, e => act a e >>= run as

theorem run_append (xs ys : List Sym) (e : σ) : run act (xs ++ ys) e = run act xs e >>= run act ys := by
  induction xs generalizing e with
  | nil => rfl
  | cons a as ih =>
    simp only [List.cons_append, run]
    cases act a e with
    | error x => rfl
    | ok e' => exact ih e'

theorem run_snoc {acts : List Sym} {a : Sym} {e0 e e' : σ} (hr : run act acts e0 = .ok e) (he : act a e = .ok e') :
    run act (acts ++ [a]) e0 = .ok e' := by
  simp [run_append, hr, bind, Except.bind, run, he]

theorem simple_snoc {acts : List Sym} {a : Sym} (hs : ∀ b ∈ acts, simple b = true) (ha : simple a = true) :
    ∀ b ∈ acts ++ [a], simple b = true := by
  simpa [or_imp, forall_and] using ⟨hs, ha⟩

theorem advS_simple {a : Sym} (ha : simple a = true) (e : σ) :
    advS act k a e = act a e >>= fun e' => pure (none, e') := by
  cases a <;> first | rfl | cases ha

theorem advL_append (xs ys : List Sym) (st : σ) :
    advL act k (xs ++ ys) st = match advL act k xs st with
      | .ok (some (y, rem), st') => .ok (some (y, rem ++ ys), st')
      | .ok (none, st') => advL act k ys st'
      | .error x => .error x := by
  induction xs generalizing st with
  | nil => rfl
  | cons x xs ih =>
    simp only [List.cons_append, advL]
    rcases advS act k x st with _ | ⟨_ | ⟨y, rem⟩, st'⟩
    · rfl
    · exact ih st'
    · simp

theorem advL_seq (prod rest : List Sym) (st : σ) : advL act k (.seq prod :: rest) st = advL act k (prod ++ rest) st := by
  rw [advL_append]; rfl

theorem advL_rep {e : TK} (hne : (e == k) = false) {body : List Sym} {st : σ}
    (hbody : ∀ st', advL act k body st ≠ .ok (none, st')) (rest : List Sym) :
    advL act k (.rep e body :: rest) st = advL act k (body ++ .rep e body :: rest) st := by
  rw [advL_append]
  simp only [advL, advS, hne]
  rcases h : advL act k body st with _ | ⟨_ | ⟨y, rem⟩, st'⟩
  · rfl
  · exact absurd h (hbody st')
  · simp

theorem advL_acts {acts : List Sym} (hs : ∀ a ∈ acts, simple a = true) (ps : List Sym) (e : σ) :
    advL act k (acts ++ ps) e = run act acts e >>= advL act k ps := by
  induction acts generalizing e with
  | nil => rfl
  | cons a as ih =>
    simp only [List.cons_append, advL, run, advS_simple act k (hs a (by simp))]
    cases act a e with
    | error x => rfl
    | ok e' => exact ih (fun b hb => hs b (by simp [hb])) e'

theorem advS_term_not_none (k' : TK) (d : Option Val) (e e' : σ) : advS act k (.term k' d) e ≠ .ok (none, e') := by
  simp only [advS]; split <;> simp

/-- a production is never used up (`none`) if one of its symbols never is -/
theorem advL_not_none {x : Sym} (hx : ∀ e e', advS act k x e ≠ .ok (none, e')) (pre post : List Sym) (e e' : σ) :
    advL act k (pre ++ x :: post) e ≠ .ok (none, e') := by
  rw [advL_append]
  rcases advL act k pre e with _ | ⟨_ | ⟨y, rem⟩, e1⟩
  · simp
  · simp only [advL]
    rcases h : advS act k x e1 with _ | ⟨_ | p, e2⟩ <;> simp
    exact absurd h (hx _ _)
  · simp

theorem advL_body_not_none (pre : List Sym) (k' : TK) (d : Option Val) (post : List Sym) (st : σ) :
    ∀ st', advL act k (pre ++ .term k' d :: post) st ≠ .ok (none, st') :=
  advL_not_none act k (advS_term_not_none act k k' d) pre post st

/-- the stacks answer every `advance` alike, except one that looks for the end marker of an array or a map: a repeater
    asked for its own end marker answers at once, its unfolding (`behaves_rep`) would descend into the body -/
def Behaves (ps ps' : List Sym) : Prop :=
  ∀ k, (k == TK.arrayEnd) = false → (k == TK.mapEnd) = false → ∀ e, advL act k ps e = advL act k ps' e

variable {act}

theorem Behaves.refl (ps : List Sym) : Behaves act ps ps := fun _ _ _ _ => rfl

theorem Behaves.trans {a b c : List Sym} (h1 : Behaves act a b) (h2 : Behaves act b c) : Behaves act a c :=
  fun k hk1 hk2 e => (h1 k hk1 hk2 e).trans (h2 k hk1 hk2 e)

theorem Behaves.under {acts : List Sym} (hs : ∀ a ∈ acts, simple a = true) {ps ps' : List Sym}
    (h : Behaves act ps ps') : Behaves act (acts ++ ps) (acts ++ ps') := by
  intro k h1 h2 e
  rw [advL_acts act k hs, advL_acts act k hs]
  cases run act acts e with
  | error x => rfl
  | ok e' => exact h k h1 h2 e'

theorem behaves_seq (prod rest : List Sym) : Behaves act (.seq prod :: rest) (prod ++ rest) :=
  fun k _ _ e => advL_seq act k prod rest e

theorem behaves_rep {e : TK} (he : e = .arrayEnd ∨ e = .mapEnd) {body : List Sym}
    (hbody : ∀ k st st', advL act k body st ≠ .ok (none, st')) (rest : List Sym) :
    Behaves act (.rep e body :: rest) (body ++ .rep e body :: rest) := by
  intro k h1 h2 st
  refine advL_rep act k ?_ (hbody k st) rest
  rcases he with rfl | rfl
  · simpa [BEq.comm] using h1
  · simpa [BEq.comm] using h2

theorem behaves_arrayRep (I : Sym) (rest : List Sym) :
    Behaves act (.rep .arrayEnd [I, .term .itemEnd none] :: rest)
      (I :: .term .itemEnd none :: .rep .arrayEnd [I, .term .itemEnd none] :: rest) :=
  behaves_rep (.inl rfl) (fun k st => advL_body_not_none act k [I] _ _ [] st) rest

theorem behaves_mapRep (V : Sym) (rest : List Sym) :
    Behaves act (.rep .mapEnd [.term .string none, .term .mapKeyMarker none, V] :: rest)
      (.term .string none :: .term .mapKeyMarker none :: V ::
        .rep .mapEnd [.term .string none, .term .mapKeyMarker none, V] :: rest) :=
  behaves_rep (.inr rfl) (fun k st => advL_body_not_none act k [] _ _ _ st) rest

theorem advance_term {ps acts rest : List Sym} {d : Option Val} {e e1 : σ}
    (hb : Behaves act ps (acts ++ .term k d :: rest)) (hs : ∀ a ∈ acts, simple a = true) (hr : run act acts e = .ok e1)
    (h1 : (k == TK.arrayEnd) = false) (h2 : (k == TK.mapEnd) = false) :
    JM.advance act k ps e = .ok (.term k d, rest, e1) := by
  unfold JM.advance
  rw [hb k h1 h2, advL_acts act k hs, hr]
  simp [bind, Except.bind, advL, advS]

theorem advance_end {acts body rest : List Sym} {e e1 : σ} (hs : ∀ a ∈ acts, simple a = true)
    (hr : run act acts e = .ok e1) : JM.advance act k (acts ++ .rep k body :: rest) e = .ok (.term k none, rest, e1) := by
  unfold JM.advance
  rw [advL_acts act k hs, hr]
  simp [bind, Except.bind, advL, advS]

end advance

mutual
inductive Gram (env : Env) : Schema → Option Val → Sym → Prop
  | null (df lt d) : Gram env (.prim .null df lt) d (.term .null d)
  | prim (p df lt d) : p ≠ .null → Gram env (.prim p df lt) d (.term (primTK p) d)
  | fixed (n sz lt al d) : Gram env (.fixed n sz lt al) d (.term .fixed d)
  | enum (n syms dflt al d) : Gram env (.enum n syms dflt al) d (.seq [.term .enum d, .enumLabels syms])
  | array (items d I) : Gram env items none I →
      Gram env (.array items) d (.seq [.term .arrayStart d, .rep .arrayEnd [I, .term .itemEnd none]])
  | map (values d V) : Gram env values none V →
      Gram env (.map values) d (.seq [.term .mapStart d, .rep .mapEnd [.term .string none, .term .mapKeyMarker none, V]])
  | union (bs d syms) : GramList env bs syms →
      Gram env (.union bs) d (.seq [.term .union none, .alt syms (bs.map label) d])
  | record (n fields al d body) : GramFields env fields body →
      Gram env (.record n fields al) d (.seq (.recordStart d :: body))
  | ref (n s' d g) : env.get? n = some s' → Gram env s' d g → Gram env (.ref n) d g
inductive GramList (env : Env) : List Schema → List Sym → Prop
  | nil : GramList env [] []
  | cons (b bs x xs) : Gram env b none x → GramList env bs xs → GramList env (b :: bs) (x :: xs)
inductive GramFields (env : Env) : List Field → List Sym → Prop
  | nil : GramFields env [] [.recordEnd]
  | cons (f rest t more) : Gram env f.type f.default t → GramFields env rest more →
      GramFields env (f :: rest) (.fieldStart f.name :: t :: .fieldEnd :: more)
end

inductive KeysOk : Val → Prop
  | dict (kv : List (Val × Val)) : (∀ p ∈ kv, ∃ s, p.1 = Val.str s ∧ s ≠ "") → (dictKeys kv).Nodup →
      (∀ p ∈ kv, KeysOk p.2) → KeysOk (.dict kv)
  | list (xs : List Val) : (∀ x ∈ xs, KeysOk x) → KeysOk (.list xs)
  | leaf (v : Val) : (∀ kv, v ≠ .dict kv) → (∀ xs, v ≠ .list xs) → KeysOk v

theorem KeysOk.of_list {xs : List Val} (h : KeysOk (.list xs)) : ∀ x ∈ xs, KeysOk x := by
  cases h with
  | list _ h => exact h
  | leaf _ _ h => exact absurd rfl (h xs)

theorem KeysOk.of_dict {kv : List (Val × Val)} (h : KeysOk (.dict kv)) :
    (∀ p ∈ kv, ∃ s, p.1 = Val.str s ∧ s ≠ "") ∧ (dictKeys kv).Nodup ∧ ∀ p ∈ kv, KeysOk p.2 := by
  cases h with
  | dict _ h1 h2 h3 => exact ⟨h1, h2, h3⟩
  | leaf _ h _ => exact absurd rfl (h kv)

mutual
/-- every record has at least one field (a record without fields makes no `advance` call: finding F5b) -/
def nonEmptyRec : Schema → Bool
  | .record _ fields _ => !fields.isEmpty && nonEmptyRecF fields
  | .array i => nonEmptyRec i
  | .map v => nonEmptyRec v
  | .union bs => nonEmptyRecL bs
  | _ => true
def nonEmptyRecL : List Schema → Bool
  | [] => true
  | b :: bs => nonEmptyRec b && nonEmptyRecL bs
def nonEmptyRecF : List Field → Bool
  | [] => true
  | .mk _ t _ _ :: fs => nonEmptyRec t && nonEmptyRecF fs
end

def EnvOk (env : Env) : Prop := ∀ n d, env.get? n = some d → d.isNamedDef = true ∧ nonEmptyRec d = true

/-- `write_utf8` / `read_utf8` look at what lies under the string they have advanced to: under a value it is not the
    map-key marker (and the stack is not empty) -/
def restOk (rest : List Sym) : Prop := ∃ top tl, rest = top :: tl ∧ top.isTerm .mapKeyMarker = false

theorem restOk_cons {top : Sym} {tl : List Sym} (h : top.isTerm .mapKeyMarker = false := by rfl) : restOk (top :: tl) :=
  ⟨top, tl, rfl, h⟩

inductive Pairwise2 (P : Val → Val → Prop) : List Val → List Val → Prop
  | nil : Pairwise2 P [] []
  | cons {v j vs js} : P v j → Pairwise2 P vs js → Pairwise2 P (v :: vs) (j :: js)

theorem Pairwise2.imp {P Q : Val → Val → Prop} (hPQ : ∀ v j, P v j → Q v j) {vs js : List Val} (h : Pairwise2 P vs js) :
    Pairwise2 Q vs js := by
  induction h with
  | nil => exact .nil
  | cons hp _ ih => exact .cons (hPQ _ _ hp) ih

theorem Pairwise2.map {α : Type} {P : Val → Val → Prop} (f g : α → Val) {l : List α} (h : ∀ t ∈ l, P (f t) (g t)) :
    Pairwise2 P (l.map f) (l.map g) := by
  induction l with
  | nil => exact .nil
  | cons t ts ih => exact .cons (h t List.mem_cons_self) (ih fun u hu => h u (List.mem_cons_of_mem _ hu))

theorem nonEmptyRecF_cons (fld : Field) (fs : List Field) :
    nonEmptyRecF (fld :: fs) = (nonEmptyRec fld.type && nonEmptyRecF fs) := by
  cases fld; rfl

/-- the symbol leads to a terminal: no `advance` uses it up, whatever the actions do -/
theorem gram_term {σ : Type} (act : Sym → σ → R σ) {env : Env} (henv : EnvOk env) :
    ∀ {s : Schema} {d : Option Val} {G : Sym}, Gram env s d G → nonEmptyRec s = true →
      ∀ (k : TK) (e e' : σ), advS act k G e ≠ .ok (none, e')
  | _, _, _, .null .., _, k, e, e' | _, _, _, .prim .., _, k, e, e' | _, _, _, .fixed .., _, k, e, e' =>
    advS_term_not_none act k _ _ e e'
  | _, _, _, .enum .., _, k, e, e' | _, _, _, .array .., _, k, e, e' | _, _, _, .map .., _, k, e, e'
  | _, _, _, .union .., _, k, e, e' => advL_body_not_none act k [] _ _ _ e e'
  | _, _, _, .ref n s' _ _ hget hg, _, k, e, e' => gram_term act henv hg (henv n s' hget).2 k e e'
  | _, _, _, .record _ _ _ d _ .nil, hne, _, _, _ => by simp [nonEmptyRec] at hne
  | _, _, _, .record _ _ _ d _ (.cons f rest t more ht _), hne, k, e, e' => by
    have hnef : nonEmptyRec f.type = true := by
      simp only [nonEmptyRec, List.isEmpty_cons, Bool.not_false, Bool.true_and, nonEmptyRecF_cons,
        Bool.and_eq_true] at hne
      exact hne.1
    exact advL_not_none act k (gram_term act henv ht hnef k) [.recordStart d, .fieldStart f.name] _ e e'

theorem gram_not_none (env : Env) (henv : EnvOk env) : ∀ {s : Schema} {d : Option Val} {G : Sym}, Gram env s d G →
    nonEmptyRec s = true → ∀ (k : TK) (e e' : Enc), advS encAct k G e ≠ .ok (none, e') :=
  gram_term encAct henv

theorem behaves_root {σ : Type} {act : Sym → σ → R σ} {env : Env} (henv : EnvOk env) {s : Schema} {d : Option Val}
    {G : Sym} (hG : Gram env s d G) (hne : nonEmptyRec s = true) : Behaves act [.root G] [G, .root G] := by
  intro k _ _ e
  simp only [advL, advS]
  rcases h : advS act k G e with _ | ⟨_ | ⟨y, rem⟩, e'⟩
  · rfl
  · exact absurd h (gram_term act henv hG hne k e e')
  · simp

theorem gramList_get {env : Env} : ∀ {bs : List Schema} {syms : List Sym}, GramList env bs syms →
    ∀ {i : Nat} {b : Schema}, bs[i]? = some b → ∃ sym, syms[i]? = some sym ∧ Gram env b none sym
  | _, _, .cons _ _ x _ hx _, 0, _, h => ⟨x, rfl, by cases h; exact hx⟩
  | _, _, .cons _ _ _ _ _ hxs, _ + 1, _, h => gramList_get hxs (by simpa using h)

theorem nonEmptyRecL_get : ∀ {bs : List Schema} {i : Nat} {b : Schema}, nonEmptyRecL bs = true → bs[i]? = some b →
    nonEmptyRec b = true
  | _ :: _, 0, _, hne, h => by cases h; simp only [nonEmptyRecL, Bool.and_eq_true] at hne; exact hne.1
  | _ :: _, _ + 1, _, hne, h => by
    simp only [nonEmptyRecL, Bool.and_eq_true] at hne
    exact nonEmptyRecL_get hne.2 (by simpa using h)

theorem nonEmptyRecF_mem : ∀ (fs : List Field), nonEmptyRecF fs = true → ∀ f ∈ fs, nonEmptyRec f.type = true
  | x :: xs, h, f, hf => by
    rw [nonEmptyRecF_cons, Bool.and_eq_true] at h
    rcases List.mem_cons.1 hf with rfl | hf
    · exact h.1
    · exact nonEmptyRecF_mem xs h.2 f hf

theorem isNullBranch_ref {env : Env} {n : String} {s' : Schema} (hget : env.get? n = some s') (hnd : s'.isNamedDef = true) :
    isNullBranch env (.ref n) = false := by
  cases s' <;> cases hnd <;> simp [unwrapRef, isNullBranch, hget]

/-- `write_index` / `read_index` look for the null terminal where the function level asks `isNullBranch` -/
theorem gram_null {env : Env} (henv : EnvOk env) {b : Schema} {sym : Sym} (h : Gram env b none sym) :
    sym.isTerm .null = isNullBranch env b := by
  cases h with
  | prim p df lt d hp => cases p <;> first | rfl | exact absurd rfl hp
  | ref n s' d g hget hg =>
    have hnd := (henv n s' hget).1
    rw [isNullBranch_ref hget hnd]
    cases hg <;> first | rfl | cases hnd
  | _ => rfl

theorem find_label_index {env : Env} {bs : List Schema} {l : String} {b : Schema} (h : findLabel env bs l = some b) :
    ∃ i, indexOf? (bs.map label) l = some i ∧ bs[i]? = some b := by
  unfold findLabel at h
  rw [List.find?_eq_getElem?_findIdx] at h
  exact ⟨_, by simp [indexOf?, List.findIdx_map, Function.comp_def, (List.getElem?_eq_some_iff.1 h).1], h⟩

mutual
/-- no record has a field whose type "contains" (in the sense of Python's `in`) the record's own name: then
    `Parser._process_record` never forces a production to null -/
def noSelf : Schema → Bool
  | .record n fields _ => noSelfF n fields
  | .array i => noSelf i
  | .map v => noSelf v
  | .union bs => noSelfL bs
  | _ => true
def noSelfL : List Schema → Bool
  | [] => true
  | b :: bs => noSelf b && noSelfL bs
def noSelfF (n : String) : List Field → Bool
  | [] => true
  | .mk _ t _ _ :: fs => !nameInType n t && noSelf t && noSelfF n fs
end

def EnvNoSelf (env : Env) : Prop := ∀ n d, env.get? n = some d → noSelf d = true

theorem noSelfF_cons (n : String) (f : Field) (fs : List Field) :
    noSelfF n (f :: fs) = (!nameInType n f.type && noSelf f.type && noSelfF n fs) := by
  cases f; rfl

/-- the induction hypothesis of `build_gram`, as the two list lemmas take it -/
def BuildA (env : Env) (fuel : Nat) : Prop :=
  ∀ proc s d g proc', build fuel env proc s d = .ok (g, proc') → noSelf s = true → Gram env s d g

theorem buildFields_gram {env : Env} {fuel : Nat} (hA : BuildA env fuel) {n : String} {again : Option String}
    (hag : again = none ∨ again = some n) : ∀ {fields : List Field} {proc : List String} {body : List Sym} {proc' : List String},
      buildFieldsWith (build fuel env) again proc fields = .ok (body, proc') → noSelfF n fields = true →
      GramFields env fields body
  | [], _, _, _, h, _ => by cases h; exact .nil
  | f :: fs, proc, body, proc', h, hns => by
    simp only [noSelfF_cons, Bool.and_eq_true, Bool.not_eq_true'] at hns
    -- the recursion guard is off (`noSelf`), so the field's type is parsed in either case
    have h' : (do let (t, proc) ← build fuel env proc f.type f.default
                  let (more, proc) ← buildFieldsWith (build fuel env) again proc fs
                  pure (Sym.fieldStart f.name :: t :: .fieldEnd :: more, proc)) = .ok (body, proc') := by
      rcases hag with rfl | rfl
      · exact h
      · simpa only [buildFieldsWith, hns.1.1, Bool.false_eq_true, if_false] using h
    simp only [R.bind_ok_iff, R.pure_ok_iff] at h'
    obtain ⟨⟨t, proc1⟩, hb, ⟨more, proc2⟩, hbf, h'⟩ := h'
    cases h'
    exact .cons f fs t more (hA _ _ _ _ _ hb hns.1.2) (buildFields_gram hA hag hbf hns.2)

theorem buildList_gram {env : Env} {fuel : Nat} (hA : BuildA env fuel) :
    ∀ {bs : List Schema} {proc : List String} {syms : List Sym} {proc' : List String},
      buildListWith (build fuel env) proc bs = .ok (syms, proc') → noSelfL bs = true → GramList env bs syms
  | [], _, _, _, h, _ => by cases h; exact .nil
  | b :: bs, proc, syms, proc', h, hns => by
    simp only [noSelfL, Bool.and_eq_true] at hns
    simp only [buildListWith, R.bind_ok_iff, R.pure_ok_iff] at h
    obtain ⟨⟨x, proc1⟩, hb, ⟨xs, proc2⟩, hbl, h⟩ := h
    cases h
    exact .cons b bs x xs (hA _ _ _ _ _ hb hns.1) (buildList_gram hA hbl hns.2)

theorem build_gram (env : Env) (henv : EnvNoSelf env) : ∀ fuel, BuildA env fuel := by
  intro fuel
  induction fuel with
  | zero => intro proc s d g proc' h; cases h
  | succ fuel IH =>
    intro proc s d g proc' h hns
    cases s with
    | prim p df lt => cases p <;> cases h <;> first | exact .null _ _ _ | exact .prim _ _ _ _ (by decide)
    | fixed n sz lt al => cases h; exact .fixed _ _ _ _ _
    | enum n syms dflt al => cases h; exact .enum _ _ _ _ _
    | array t | map t =>
      simp only [build, R.bind_ok_iff, R.pure_ok_iff] at h
      obtain ⟨⟨i, proc1⟩, hb, h⟩ := h
      cases h
      constructor
      exact IH _ _ _ _ _ hb hns
    | union bs =>
      simp only [build, R.bind_ok_iff, R.pure_ok_iff] at h
      obtain ⟨⟨syms, proc1⟩, hb, h⟩ := h
      cases h
      exact .union _ _ _ (buildList_gram IH hb hns)
    | record n fields al =>
      simp only [build] at h
      split at h <;> simp only [R.bind_ok_iff, R.pure_ok_iff] at h <;> obtain ⟨⟨body, proc1⟩, hb, h⟩ := h <;> cases h
      · exact .record _ _ _ _ _ (buildFields_gram IH (.inr rfl) hb hns)
      · exact .record _ _ _ _ _ (buildFields_gram IH (.inl rfl) hb hns)
    | ref n =>
      simp only [build] at h
      split at h
      · rename_i s' hget
        exact .ref n s' d g hget (IH _ _ _ _ _ h (henv n s' hget))
      · cases h

theorem initialStack_gram {env : Env} (henv : EnvNoSelf env) {fuel : Nat} {s : Schema} {ps : List Sym}
    (h : initialStack fuel env s = .ok ps) (hns : noSelf s = true) : ∃ G, ps = [G, .root G] ∧ Gram env s none G := by
  simp only [initialStack, R.bind_ok_iff, R.pure_ok_iff] at h
  obtain ⟨⟨g, proc⟩, hb, rfl⟩ := h
  exact ⟨g, rfl, build_gram env henv fuel _ _ _ _ _ hb hns⟩

end JMProofs
