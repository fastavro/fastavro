/-
  Proofs/Reject.lean — C11: the rejection rules of `_parse_schema`, each at the function that raises it, and the
  propagation of an error through the loops and out of `parseEnum` / `parseRecord`; Properties/C11.lean carries them to
  `Parse.parse` through `Parse.route_*`.  Where the rule is `checkDefault`'s on a type other than a primitive, or the error
  comes from an array's items or a map's values, C11 unfolds the parser concerned.
-/
import Proofs.Parse

namespace RejectProofs
open Parse R

theorem error_bind {α β} (e : Err) (f : α → R β) : ((Except.error e : R α) >>= f) = .error e := rfl

theorem list_error {p : Val → St → R (Schema × St)} {x : Val} {pre post : List Val} {st st1 : St} {bs : List Schema} {e : Err}
    (h1 : parseListWith p pre st = .ok (bs, st1)) (h2 : p x st1 = .error e) :
    parseListWith p (pre ++ x :: post) st = .error e :=
  parseListWith_induct (motive := fun pre st _ st1 => p x st1 = .error e → parseListWith p (pre ++ x :: post) st = .error e)
    (fun _ h2 => by simp only [List.nil_append, parseListWith, h2, error_bind])
    (fun hy ih h2 => by simp only [List.cons_append, parseListWith, hy, ok_bind, ih h2, error_bind]) h1 h2

theorem fields_error {p : Val → St → Option Val → R (Schema × St)} {kv : List (Val × Val)} {pre post : List Val} {st st1 : St}
    {fs : List Field} {e : Err} {al : List String} {d : Option Val} {name : String} {ty : Val}
    (hh : fieldHeader kv = .ok (al, d, name, ty)) (h1 : parseFieldsWith p pre st = .ok (fs, st1)) (h2 : p ty st1 d = .error e) :
    parseFieldsWith p (pre ++ .dict kv :: post) st = .error e :=
  parseFieldsWith_induct
    (motive := fun pre st _ st1 => p ty st1 d = .error e → parseFieldsWith p (pre ++ .dict kv :: post) st = .error e)
    (fun _ h2 => by simp only [List.nil_append, parseFieldsWith, hh, ok_bind, h2, error_bind])
    (fun hyh hy ih h2 => by simp only [List.cons_append, parseFieldsWith, hyh, hy, ok_bind, ih h2, error_bind]) h1 h2

theorem unnamed (kv : List (Val × Val)) (ns : String) (h : dictGetV kv "name" = none) :
    schemaName kv ns = .error .parse := by
  simp only [schemaName, h]

theorem undefined_ref {name ns : String} {st : St} {dflt : Option Val} {ign : Bool} (hp : Prim.ofName? name = none)
    (hu : st.env.get? (Spec.refName name ns) = none) : parseName name ns st dflt ign = .error .unknownType := by
  rw [parseName, hp]
  exact if_pos (by rw [← Spec.refName, hu]; rfl)

section
variable {kv : List (Val × Val)} {symsL : List Val} {ns ns' full : String} {st : St} {dflt : Option Val} {ign : Bool} {e : Err}
  {pf : String → List Val → St → R (List Field × St)} {lt : Option LogT}

theorem redefined_enum (hn : schemaName kv ns = .ok (ns', full)) (hd : st.names.contains full = true) :
    parseEnum kv ns st dflt ign = .error .parse := by
  rw [parseEnum, hn]; exact if_pos hd

theorem redefined_fixed (hn : schemaName kv ns = .ok (ns', full)) (hd : st.names.contains full = true) :
    parseFixed kv ns st dflt ign lt = .error .parse := by
  rw [parseFixed, hn]; exact if_pos hd

theorem redefined_record (hn : schemaName kv ns = .ok (ns', full)) (hd : st.names.contains full = true) :
    parseRecord pf kv ns st dflt ign = .error .parse := by
  rw [parseRecord, hn]; exact if_pos hd

theorem bad_symbol (hs : dictGetV kv "symbols" = some (.list symsL)) {x : Val} (hx : x ∈ symsL) (hbad : symValOk x = false) :
    enumSymbols kv = .error .parse := by
  have hall : symsL.all symValOk = false := by
    rw [List.all_eq_false]
    exact ⟨x, hx, by simp only [hbad, Bool.false_eq_true, not_false_eq_true]⟩
  simp only [enumSymbols, getKey, hs, ok_bind, hall, Bool.not_false, if_true]

theorem duplicate_symbol (hs : dictGetV kv "symbols" = some (.list symsL))
    (hdup : (symNames symsL).eraseDups.length ≠ (symNames symsL).length) :
    enumSymbols kv = .error .parse := by
  simp only [enumSymbols, getKey, hs, ok_bind]
  split
  · rfl
  · simp only [bne_iff_ne, ne_eq, hdup, not_false_eq_true, if_true]

theorem enum_default_outside (hs : dictGetV kv "symbols" = some (.list symsL)) {d : Val} (hd : dictGetV kv "default" = some d)
    (hout : ∀ t, d = .str t → (symNames symsL).contains t = false) :
    enumSymbols kv = .error .parse := by
  simp only [enumSymbols, getKey, hs, ok_bind]
  split
  · rfl
  · split
    · rfl
    · rw [hd]
      cases d <;> simp only
      rename_i t
      simp only [hout t rfl, Bool.not_false, if_true]

theorem enum_error (hn : schemaName kv ns = .ok (ns', full)) (hd : st.names.contains full = false) (hs : enumSymbols kv = .error e) :
    parseEnum kv ns st dflt ign = .error e := by
  simp only [parseEnum, hn, ok_bind, hd, Bool.false_eq_true, if_false, hs, error_bind]

theorem record_error (hn : schemaName kv ns = .ok (ns', full)) (hc : st.names.contains full = false)
    (hd : checkDefault dflt isDict ign = .ok ()) (h : pf ns' (dictListOr kv "fields") (recordSt kv full st) = .error e) :
    parseRecord pf kv ns st dflt ign = .error e := by
  unfold recordSt at h
  simp only [parseRecord, hn, ok_bind, hc, Bool.false_eq_true, if_false, hd, h, error_bind]

end

/-- the last argument of `checkDefault` is `_ignore_default_error` -/
theorem bad_default (d : Val) (ok : Val → Bool) (h : ok d = false) : checkDefault (some d) ok false = .error .parse := by
  simp only [checkDefault, h, Bool.not_false, Bool.and_self, if_true]

theorem bad_default_prim {name ns : String} {st : St} {p : Prim} {d : Val} (hp : Prim.ofName? name = some p)
    (hd : defaultMatches d (.prim p false none) = false) : parseName name ns st (some d) false = .error .parse := by
  simp only [parseName, hp, bad_default d (fun d => defaultMatches d (.prim p false none)) hd, error_bind]

theorem bad_default_primDict (ty : String) (st : St) (p : Prim) (d : Val) (lt : Option LogT) (hp : Prim.ofName? ty = some p)
    (hd : defaultMatches d (.prim p false none) = false) :
    parsePrimDict ty st (some d) false lt = .error .parse := by
  simp only [parsePrimDict, hp, defaultMatchesDictPrim, bad_default d (fun d => defaultMatches d (.prim p false none)) hd, error_bind]

/-- the scale passes its own check: absent, falsy (`0`, `None`) or a non-negative integer -/
def ScaleFine (scale : Option Val) : Prop := scaleCheck scale = .ok ()
/-- the precision passes its own check: absent, falsy, or a positive integer that, for a `fixed`, `size` bytes can hold -/
def PrecisionFine (kv : List (Val × Val)) (precision : Option Val) (isFixed : Bool) : Prop :=
  precisionCheck kv precision isFixed = .ok ()

section
variable {kv : List (Val × Val)} {isFixed : Bool}

theorem decimal_stage (hl : dictGetV kv "logicalType" = some (.str "decimal")) :
    parseLogical kv isFixed = (do
      scaleCheck (dictGetV kv "scale")
      precisionCheck kv (dictGetV kv "precision") isFixed
      crossCheck (dictGetV kv "scale") (dictGetV kv "precision")
      pure (some { name := "decimal", precision := (dictGetV kv "precision").bind asPyInt?,
                   scale := ((dictGetV kv "scale").bind asPyInt?).getD 0 })) := by
  unfold parseLogical
  simp only [hl, BEq.rfl, if_true]

theorem scaleCheck_bad {v : Val} (ht : truthy v = true) (hbad : ∀ n, asPyInt? v = some n → n < 0) :
    scaleCheck (some v) = .error .parse := by
  simp only [scaleCheck, ht, if_true]
  cases hv : asPyInt? v with
  | none => rfl
  | some n => simp only [hbad n hv, if_true]

theorem precisionCheck_bad {v : Val} (ht : truthy v = true) (hbad : ∀ n, asPyInt? v = some n → n ≤ 0) :
    precisionCheck kv (some v) isFixed = .error .parse := by
  simp only [precisionCheck, ht, if_true]
  cases hv : asPyInt? v with
  | none => rfl
  | some n => simp only [hbad n hv, if_true]

theorem precisionCheck_beyond_size {v : Val} {n sz : Int} (hf : isFixed = true) (ht : truthy v = true) (hn : asPyInt? v = some n)
    (hsz : dictGetV kv "size" = some (.int sz)) (hbig : n > maxPrecision sz.toNat) :
    precisionCheck kv (some v) isFixed = .error .parse := by
  -- `n ≤ 0` is not excluded: that branch raises the same error (`ite_self`)
  simp only [precisionCheck, hf, ht, if_true, hn, hsz, hbig, ite_self]

theorem crossCheck_bad {sv pv : Val} {sc pr : Int} (hts : truthy sv = true) (htp : truthy pv = true)
    (hsn : asPyInt? sv = some sc) (hpn : asPyInt? pv = some pr) (habove : pr < sc) :
    crossCheck (some sv) (some pv) = .error .parse := by
  simp only [crossCheck, hts, htp, Bool.and_self, if_true, hsn, hpn, habove]

theorem logical_error {fuel : Nat} {ns : String} {st : St} {dflt : Option Val} {ign : Bool} {ty : String} {e : Err}
    (hty : dictType kv = .ok ty) (hl : parseLogical kv (ty == "fixed") = .error e) :
    parse (fuel+1) (.dict kv) ns st dflt ign = .error e := by
  simp only [parse, hty, ok_bind, hl, error_bind]

end

end RejectProofs
