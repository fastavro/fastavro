/-
  Proofs/MatchSchemas.lean — C08: what `match_schemas` returns: with a union on either side (`ms_union_w`, `ms_union_r`);
  and, read off `ResolveMatch.ms_le`, the reader schema it continues with (`cont_deref`, which the induction of
  ResolveFull.lean uses); `ms_status` and `ms_shape` state its status and its result on their own.
-/
import Proofs.ResolveMatch

namespace ResolveFull
open Resolve ResolveMatch NonFuel

theorem ms_union_w {wenv renv : Env} {f : Nat} {bs : List Schema} {r : Schema} :
    matchSchemas (f+1) wenv renv (.union bs) r = .ok r := rfl

theorem ms_union_r {wenv renv : Env} {f : Nat} {w : Schema} {rs : List Schema} (hw : isList w = false) :
    matchSchemas (f+1) wenv renv w (.union rs) =
      (firstMatchWith (matchTypes f wenv renv) w (readerBranches wenv renv w rs) >>= fun o =>
        match o with
        | some b => matchSchemas f wenv renv w b
        | none => throw .resolution) := by
  cases w <;> first | exact Bool.noConfusion hw | rfl

theorem def_registered {renv : Env} (hrf : EnvWF renv) {r : Schema} (hr : MClosed renv true r)
    (hn : (definitionOf renv r).isNamedDef = true) :
    renv.get? ((definitionOf renv r).defName?.getD "") = some (definitionOf renv r) := by
  cases r with
  | ref m =>
    obtain ⟨d, hd⟩ := hr
    rw [definitionOf_entry hd, (hrf.named m d hd).2]
    exact hd
  | _ => first | exact Bool.noConfusion hn | exact hr rfl

section
variable {wenv renv : Env} (hwf : EnvWF wenv) (hrf : EnvWF renv) {w r : Schema} (hw : MClosed wenv false w) (hr : MClosed renv true r)
  (huw : isList w = false) (hur : isList r = false)
include hwf hrf hw hr huw hur

theorem matches_named (hm : Spec.matchesS wenv renv w r = true) :
    (definitionOf wenv w).isNamedDef = (definitionOf renv r).isNamedDef := by
  have hwd := definitionOf_deref hw
  have hrd := definitionOf_deref hr
  rw [Spec.matchesS, matches_deref_w hwf hwd, matches_deref_r hrf hrd] at hm
  refine Decidable.byContradiction fun hne => ?_
  rw [spec_def_other false (deref_flat hwf hwd huw) (deref_flat hrf hrd hur) hne] at hm
  cases hm

theorem cont_deref (hm : Spec.matchesS wenv renv w r = true) : Spec.deref renv (cont renv w r) = some (definitionOf renv r) := by
  cases w with
  | ref n =>
    have hn := matches_named hwf hrf hw hr huw hur hm
    obtain ⟨wd, hwd⟩ := hw
    rw [definitionOf_entry hwd, (hwf.named n wd hwd).1] at hn
    exact def_registered hrf hr hn.symm
  | _ => exact deref_idem hrf (definitionOf_deref hr)

theorem ms_status (g : Nat) (b : Bool) (h : status (matchSchemas g wenv renv w r) = .ok b) : b = Spec.matchesS wenv renv w r := by
  have := (Le.map status rfl (ms_le hwf hrf g w r hw hr huw hur)).ok_of_ok h
  rw [status_msSpec] at this; cases this; rfl

end

section
variable (wenv renv : Env) (hwf : EnvWF wenv) (hrf : EnvWF renv)
include hwf hrf

theorem ms_shape (g : Nat) (w r r' : Schema) (hw : MClosed wenv false w) (hr : MClosed renv true r)
    (huw : isList w = false) (hur : isList r = false) (h : matchSchemas g wenv renv w r = .ok r') :
    Spec.matchesS wenv renv w r = true ∧ Spec.deref renv r' = Spec.deref renv r ∧
    (w.isNamedDef = true → r'.isNamedDef = true) ∧ (∀ n, w = .ref n → ∃ m, r' = .ref m) := by
  have h' := (ms_le hwf hrf g w r hw hr huw hur).ok_of_ok h
  rw [msSpec] at h'
  cases hm : Spec.matchesS wenv renv w r with
  | false => rw [hm] at h'; cases h'
  | true =>
    rw [hm, if_pos rfl] at h'
    cases h'
    refine ⟨rfl, (cont_deref hwf hrf hw hr huw hur hm).trans (definitionOf_deref hr).symm, fun hwn => ?_, fun n e => by subst e; exact ⟨_, rfl⟩⟩
    have hf := named_flat hwn
    rw [cont_of_flat r hf, ← matches_named hwf hrf hw hr huw hur hm, definitionOf_flat hf]
    exact hwn

end

end ResolveFull
