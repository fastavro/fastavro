/-
  Proofs/NonFuel.lean — results "equal, fuel apart": `Le x y` says that `y` is `x` unless `x` ran out of fuel.  It is
  the flat order on `R α` with `.error .fuel` at the bottom; `>>=` is monotone for it (`Le.bind`), hence so is every
  loop of the readers in the element reader it is given, and `skip_data` in its fuel.
-/
import Model.Binary

namespace NonFuel
open Binary

/-- `x` is a definite result: not an out-of-fuel error -/
def Def {α} (x : R α) : Prop := x ≠ .error .fuel

/-- every definite result of `f` is the result of `g` -/
def Refines {α β} (f g : α → R β) : Prop := ∀ a, Def (f a) → g a = f a

/-- `Refines f g` is `∀ a, Le (f a) (g a)`.  `Def` and `Refines` word the statements `blocks`, `entries`, `skipData_def`,
    `SpecMono.resolveRead_def`; the lemmas in between compose `Le`. -/
def Le {α} (x y : R α) : Prop := Def x → y = x

theorem Le.refl {α} {x : R α} : Le x x := fun _ => Eq.refl x

theorem Le.fuel {α} {y : R α} : Le (.error .fuel) y := fun h => absurd rfl h

theorem Le.trans {α} {x y z : R α} (h1 : Le x y) (h2 : Le y z) : Le x z := fun hd => by
  have e := h1 hd
  rw [h2 (e ▸ hd), e]

/-- Running out of fuel propagates through `>>=`, so `>>=` is monotone.  Going through this lemma also keeps
    goals `(.error e >>= k) = (.error e >>= k')` with `k ≠ k'` away from `rfl`: the kernel compares `k` and `k'`
    before it unfolds the bind, and unfolds whole readers to find them different. -/
theorem Le.bind {α β} {x x' : R α} {f g : α → R β} (hx : Le x x') (hf : ∀ a, x = .ok a → Le (f a) (g a)) :
    Le (x >>= f) (x' >>= g) := by
  intro hd
  cases x with
  | error e => rw [hx fun h => hd (by cases h; exact Eq.refl _)]; exact Eq.refl (Except.error e)
  | ok a => rw [hx nofun]; exact hf a (Eq.refl _) hd

theorem Le.bind_right {α β} {x : R α} {f g : α → R β} (hf : ∀ a, x = .ok a → Le (f a) (g a)) : Le (x >>= f) (x >>= g) :=
  Le.bind Le.refl hf

theorem Le.map {α β} {x y : R α} (h : R α → R β) (hs : h (.error .fuel) = .error .fuel) (hxy : Le x y) : Le (h x) (h y) := by
  intro hd
  rw [hxy fun e => hd (by rw [e, hs])]

theorem Le.ok_of_ok {α} {x y : R α} {a : α} (h : Le x y) (hx : x = .ok a) : y = .ok a := by
  rw [h (by rw [hx]; exact fun e => nomatch e), hx]

section
variable {rd rd' : Bytes → R (Val × Bytes)} (h : ∀ a, Le (rd a) (rd' a))
include h

theorem items_le (n : Nat) : ∀ bs, Le (readItemsWith rd n bs) (readItemsWith rd' n bs) := by
  induction n with
  | zero => exact fun _ => Le.refl
  | succ n ih => exact fun bs => Le.bind (h bs) fun _ _ => Le.bind (ih _) fun _ _ => Le.refl

theorem blocks_le (k : Nat) : ∀ c bs, Le (readBlocksWith rd k c bs) (readBlocksWith rd' k c bs) := by
  induction k with
  | zero => exact fun _ _ => Le.refl
  | succ k ih =>
    intro c bs
    simp only [readBlocksWith]
    split
    · exact Le.refl
    · exact Le.bind_right fun _ _ =>
        Le.bind (items_le h _ _) fun _ _ =>
        Le.bind_right fun _ _ =>
        Le.bind (ih _ _) fun _ _ => Le.refl

theorem entries_le (n : Nat) : ∀ bs acc, Le (readEntriesWith rd n bs acc) (readEntriesWith rd' n bs acc) := by
  induction n with
  | zero => exact fun _ _ => Le.refl
  | succ n ih => exact fun bs acc => Le.bind_right fun _ _ => Le.bind (h _) fun _ _ => ih _ _

theorem mapBlocks_le (k : Nat) : ∀ c bs acc, Le (readMapBlocksWith rd k c bs acc) (readMapBlocksWith rd' k c bs acc) := by
  induction k with
  | zero => exact fun _ _ _ => Le.refl
  | succ k ih =>
    intro c bs acc
    simp only [readMapBlocksWith]
    split
    · exact Le.refl
    · exact Le.bind_right fun _ _ =>
        Le.bind (entries_le h _ _ _) fun _ _ =>
        Le.bind_right fun _ _ => ih _ _ _
end

section
variable (rd rd' : Bytes → R (Val × Bytes)) (h : Refines rd rd')
include h

theorem blocks (k : Nat) : ∀ c bs, Def (readBlocksWith rd k c bs) → readBlocksWith rd' k c bs = readBlocksWith rd k c bs :=
  blocks_le h k

theorem entries (n : Nat) : ∀ bs acc, Def (readEntriesWith rd n bs acc) →
    readEntriesWith rd' n bs acc = readEntriesWith rd n bs acc :=
  entries_le h n

end

section skip
variable {sk sk' : Bytes → R Bytes} (h : ∀ a, Le (sk a) (sk' a))
include h

theorem skipItems_le (isMap : Bool) (n : Nat) : ∀ bs, Le (skipItemsWith sk isMap n bs) (skipItemsWith sk' isMap n bs) := by
  induction n with
  | zero => exact fun _ => Le.refl
  | succ n ih => exact fun bs => Le.bind_right fun _ _ => Le.bind (h _) fun _ _ => ih _

theorem skipBlocks_le (isMap : Bool) (k : Nat) : ∀ c bs, Le (skipBlocksWith sk isMap k c bs) (skipBlocksWith sk' isMap k c bs) := by
  induction k with
  | zero => exact fun _ _ => Le.refl
  | succ k ih =>
    intro c bs
    simp only [skipBlocksWith]
    split
    · exact Le.refl
    · exact Le.bind_right fun _ _ =>
        Le.bind (skipItems_le h _ _ _) fun _ _ =>
        Le.bind_right fun _ _ => ih _ _
end skip

theorem skipFields_le {sk sk' : Schema → Bytes → R Bytes} (h : ∀ s a, Le (sk s a) (sk' s a)) (fs : List Field) :
    ∀ bs, Le (skipFieldsWith sk fs bs) (skipFieldsWith sk' fs bs) := by
  induction fs with
  | nil => exact fun _ => Le.refl
  | cons f rest ih => exact fun bs => Le.bind (h _ _) fun _ _ => ih _

theorem skipData_def (env : Env) (f : Nat) : ∀ s, Refines (skipData f env s) (skipData (f+1) env s) := by
  induction f with
  | zero => exact fun _ _ => Le.fuel
  | succ f ih =>
    intro s bs
    cases s with
    | prim p d lt => exact Le.refl
    | fixed n sz lt al => exact Le.refl
    | enum n sy df al => exact Le.refl
    | array items => exact Le.bind_right fun _ _ => skipBlocks_le (ih items) _ _ _ _
    | map values => exact Le.bind_right fun _ _ => skipBlocks_le (ih values) _ _ _ _
    | union branches =>
      refine Le.bind_right fun x _ => ?_
      show Le (match indexChecked branches x.1 with | none => _ | some b => skipData f env b x.2)
        (match indexChecked branches x.1 with | none => _ | some b => skipData (f+1) env b x.2)
      cases indexChecked branches x.1 with
      | none => exact Le.refl
      | some b => exact ih b _
    | record n fields al => exact skipFields_le ih fields bs
    | ref n =>
      show Le (match env.get? n with | some s' => skipData f env s' bs | none => _)
        (match env.get? n with | some s' => skipData (f+1) env s' bs | none => _)
      cases env.get? n with
      | none => exact Le.refl
      | some s' => exact ih s' bs

theorem skipData_le {env : Env} {f g : Nat} (h : f ≤ g) (s : Schema) (bs : Bytes) : Le (skipData f env s bs) (skipData g env s bs) := by
  induction h with
  | refl => exact Le.refl
  | step _ ih => exact ih.trans (skipData_def env _ s bs)

end NonFuel
