/-
  Proofs/Accept.lean — the reader decodes every `Spec.Enc`-valid encoding to the encoded value and stops exactly at
  its end (C03): each constructor of `Spec.Enc` and its companions is one of the reader's rules of Proofs/Loops.lean.
  Skipping the same encodings follows because a skip stops where the read stops (Proofs/ReadSkip.lean).
-/
import Proofs.Loops
import Proofs.ReadSkip

namespace AcceptProofs
open Binary Spec Loops

theorem i64_of_neg_nat (n : Nat) (h : n < Spec.LIM) : I64 (-(n : Int)) := by
  unfold I64; unfold Spec.LIM at h; omega

theorem assignAll_cons (acc : List (Val × Val)) (k : String) (v : Val) (es : List (String × Val)) :
    assignAll acc ((k, v) :: es) = assignAll (valDictSet acc k v) es := rfl

theorem assignAll_append (acc : List (Val × Val)) (es fs : List (String × Val)) :
    assignAll acc (es ++ fs) = assignAll (assignAll acc es) fs := List.foldl_append

/-- statements of this form combine (`map₂`) without any appeal to monotonicity of the reader in its budget -/
def Eventually (P : Nat → Prop) : Prop := ∃ g, ∀ f, g ≤ f → P f

theorem Eventually.always {P : Nat → Prop} (h : ∀ f, P f) : Eventually P := ⟨0, fun f _ => h f⟩

theorem Eventually.mono {P Q : Nat → Prop} (hp : Eventually P) (h : ∀ f, P f → Q f) : Eventually Q :=
  let ⟨g, hg⟩ := hp; ⟨g, fun f hf => h f (hg f hf)⟩

theorem Eventually.map₂ {P Q S : Nat → Prop} (hp : Eventually P) (hq : Eventually Q) (h : ∀ f, P f → Q f → S f) :
    Eventually S :=
  let ⟨g1, h1⟩ := hp; let ⟨g2, h2⟩ := hq
  ⟨max g1 g2, fun f hf => h f (h1 f (by omega)) (h2 f (by omega))⟩

theorem Eventually.of_succ {P : Nat → Prop} (h : ∀ f, P (f + 1)) : Eventually P :=
  ⟨1, fun
    | 0, h0 => nomatch h0
    | f+1, _ => h f⟩

theorem Eventually.succ {P Q : Nat → Prop} (hp : Eventually P) (h : ∀ f, P f → Q (f + 1)) : Eventually Q :=
  let ⟨g, hg⟩ := hp
  ⟨g + 1, fun
    | 0, h0 => nomatch h0
    | f+1, hf => h f (hg f (Nat.le_of_succ_le_succ hf))⟩

theorem Eventually.exists {P : Nat → Prop} (hp : Eventually P) : ∃ g, P g :=
  let ⟨g, hg⟩ := hp
  ⟨g, hg g (Nat.le_refl g)⟩

section
variable {env : Env}

mutual
theorem acceptE : ∀ {s v bs}, Enc env s v bs → Eventually fun f => Reads (readData f env {} s) v bs
  | _, _, _, .prim hp => .of_succ fun _ => readData_prim hp
  | _, _, _, .fixed _ hb => .of_succ fun _ => readData_fixed hb
  | _, _, _, .enum _ h _ => .of_succ fun _ => readData_enum (List.getElem?_eq_getElem h)
  | _, _, _, .array _ hb => (acceptBlocksE hb).succ fun _ => readData_array
  | _, _, _, .map _ hb => (acceptMapBlocksE hb []).succ fun _ => readData_map
  | _, _, _, .union _ hb _ he => (acceptE he).succ fun _ => readData_union hb
  | _, _, _, .record hf => (acceptFieldsE hf []).succ fun _ => readData_record
  | _, _, _, .ref hn he => (acceptE he).succ fun _ => readData_ref hn
theorem acceptBlocksE : ∀ {s c xs bs}, Blocks env s c xs bs →
    Eventually fun f => ReadsBlocks (readBlocksWith (readData f env {} s) · c) xs bs
  | _, _, _, _, .done => .always fun _ => readBlocksWith_done
  | _, _, _, _, .pos hne _ hi _ hb => (acceptItemsE hi).map₂ (acceptBlocksE hb) fun _ =>
      readBlocksWith_block (hd := []) (List.length_pos_iff.2 hne) (blockCount_pos _)
  | _, _, _, _, .neg sz _ hne _ hi _ hb => (acceptItemsE hi).map₂ (acceptBlocksE hb) fun _ =>
      readBlocksWith_block (List.length_pos_iff.2 hne) (blockCount_neg (List.length_pos_iff.2 hne) sz)
theorem acceptItemsE : ∀ {s xs bs}, Items env s xs bs →
    Eventually fun f => Reads (readItemsWith (readData f env {} s) xs.length) xs bs
  | _, _, _, .nil => .always fun _ => readItemsWith_nil
  | _, _, _, .cons he hi => (acceptE he).map₂ (acceptItemsE hi) fun _ => readItemsWith_cons
theorem acceptMapBlocksE : ∀ {s c es bs}, MapBlocks env s c es bs → ∀ acc,
    Eventually fun f => ReadsBlocks (readMapBlocksWith (readData f env {} s) · c · acc) (assignAll acc es) bs
  | _, _, _, _, .done, _ => .always fun _ => readMapBlocksWith_done
  | _, _, _, _, .pos (es := es) hne _ hi _ hb, acc =>
      (acceptEntriesE hi acc).map₂ (acceptMapBlocksE hb (assignAll acc es)) fun _ => by
        rw [assignAll_append]
        exact readMapBlocksWith_block (hd := []) (List.length_pos_iff.2 hne) (blockCount_pos _)
  | _, _, _, _, .neg (es := es) sz _ hne _ hi _ hb, acc =>
      (acceptEntriesE hi acc).map₂ (acceptMapBlocksE hb (assignAll acc es)) fun _ => by
        rw [assignAll_append]
        exact readMapBlocksWith_block (List.length_pos_iff.2 hne) (blockCount_neg (List.length_pos_iff.2 hne) sz)
theorem acceptEntriesE : ∀ {s es bs}, Entries env s es bs → ∀ acc,
    Eventually fun f => Reads (readEntriesWith (readData f env {} s) es.length · acc) (assignAll acc es) bs
  | _, _, _, .nil, _ => .always fun _ => readEntriesWith_nil
  | _, _, _, .cons (k := k) (v := v) _ he hi, acc =>
      (acceptE he).map₂ (acceptEntriesE hi (valDictSet acc k v)) fun _ => readEntriesWith_cons
theorem acceptFieldsE : ∀ {fs es bs}, Fields env fs es bs → ∀ acc,
    Eventually fun f => Reads (readFieldsWith (readData f env {}) fs · acc) (assignAll acc es) bs
  | _, _, _, .nil, _ => .always fun _ => readFieldsWith_nil
  | _, _, _, .cons (f := fd) (v := v) he hf, acc =>
      (acceptE he).map₂ (acceptFieldsE hf (valDictSet acc fd.name v)) fun _ => readFieldsWith_cons
end

end

theorem accept {env : Env} : ∀ {s v bs}, Enc env s v bs → ∀ rest,
    ∃ g, readData g env {} s (bs ++ rest) = .ok (v, rest) :=
  fun h rest => ((acceptE h).mono fun _ hf => hf rest).exists
theorem acceptBlocks {env : Env} : ∀ {s c xs bs}, Blocks env s c xs bs → ∀ rest,
    ∃ g, ∀ k, bs.length + 1 ≤ k → readBlocksWith (readData g env {} s) k c (bs ++ rest) = .ok (xs, rest) :=
  fun h rest => ((acceptBlocksE h).mono fun _ hf k hk => hf k hk rest).exists
theorem acceptItems {env : Env} : ∀ {s xs bs}, Items env s xs bs → ∀ rest,
    ∃ g, readItemsWith (readData g env {} s) xs.length (bs ++ rest) = .ok (xs, rest) :=
  fun h rest => ((acceptItemsE h).mono fun _ hf => hf rest).exists
theorem acceptMapBlocks {env : Env} : ∀ {s c es bs}, MapBlocks env s c es bs → ∀ rest acc,
    ∃ g, ∀ k, bs.length + 1 ≤ k →
      readMapBlocksWith (readData g env {} s) k c (bs ++ rest) acc = .ok (assignAll acc es, rest) :=
  fun h rest acc => ((acceptMapBlocksE h acc).mono fun _ hf k hk => hf k hk rest).exists
theorem acceptEntries {env : Env} : ∀ {s es bs}, Entries env s es bs → ∀ rest acc,
    ∃ g, readEntriesWith (readData g env {} s) es.length (bs ++ rest) acc = .ok (assignAll acc es, rest) :=
  fun h rest acc => ((acceptEntriesE h acc).mono fun _ hf => hf rest).exists
theorem acceptFields {env : Env} : ∀ {fs es bs}, Fields env fs es bs → ∀ rest acc,
    ∃ g, readFieldsWith (readData g env {}) fs (bs ++ rest) acc = .ok (assignAll acc es, rest) :=
  fun h rest acc => ((acceptFieldsE h acc).mono fun _ hf => hf rest).exists

open ReadSkip

theorem skipBlocksAcc {env : Env} : ∀ {s c xs bs}, Blocks env s c xs bs → ∀ rest,
    ∃ g, ∀ k, bs.length + 1 ≤ k → skipBlocksWith (skipData g env s) false k c (bs ++ rest) = .ok rest :=
  fun h rest => ((acceptBlocksE h).mono fun f hf k hk =>
    (readBlocksWith_skip (readData_skip env {} f _) k _ _).ok_of_ok (hf k hk rest)).exists
theorem skipItemsAcc {env : Env} : ∀ {s xs bs}, Items env s xs bs → ∀ rest,
    ∃ g, skipItemsWith (skipData g env s) false xs.length (bs ++ rest) = .ok rest :=
  fun h rest => ((acceptItemsE h).mono fun f hf =>
    (readItemsWith_skip (readData_skip env {} f _) _ _).ok_of_ok (hf rest)).exists
theorem skipMapBlocksAcc {env : Env} : ∀ {s c es bs}, MapBlocks env s c es bs → ∀ rest,
    ∃ g, ∀ k, bs.length + 1 ≤ k → skipBlocksWith (skipData g env s) true k c (bs ++ rest) = .ok rest :=
  fun h rest => ((acceptMapBlocksE h []).mono fun f hf k hk =>
    (readMapBlocksWith_skip (readData_skip env {} f _) k _ _ _).ok_of_ok (hf k hk rest)).exists
theorem skipEntriesAcc {env : Env} : ∀ {s es bs}, Entries env s es bs → ∀ rest,
    ∃ g, skipItemsWith (skipData g env s) true es.length (bs ++ rest) = .ok rest :=
  fun h rest => ((acceptEntriesE h []).mono fun f hf =>
    (readEntriesWith_skip (readData_skip env {} f _) _ _ _).ok_of_ok (hf rest)).exists
theorem skipFieldsAcc {env : Env} : ∀ {fs es bs}, Fields env fs es bs → ∀ rest,
    ∃ g, skipFieldsWith (skipData g env) fs (bs ++ rest) = .ok rest :=
  fun h rest => ((acceptFieldsE h []).mono fun f hf =>
    (readFieldsWith_skip (readData_skip env {} f) _ _ _).ok_of_ok (hf rest)).exists

end AcceptProofs
