/-
  Proofs/Varint.lean — the Python bit-twiddling of write_int / read_long equals the arithmetic
  definition of the specification, and decoding inverts encoding; the errors of read_long.
-/
import Model.Binary
import Spec.Varint

namespace VarintProofs
open Binary

theorem shr63 (n : Int) (hlo : -(2^63) ≤ n) (hhi : n < 2^63) : Py.shr n 63 = if 0 ≤ n then 0 else -1 := by
  unfold Py.shr
  rw [Int.shiftRight_eq_div_pow]
  split <;> omega

theorem xor_zero_right (x : Int) : Py.xor x 0 = x := by
  cases x <;> simp [Py.xor]

theorem xor_neg_one (x : Int) : Py.xor x (-1) = -x - 1 := by
  cases x with
  | ofNat a =>
    show Py.xor (Int.ofNat a) (Int.negSucc 0) = _
    simp only [Py.xor, Nat.xor_zero]
    simp [Int.negSucc_eq]; omega
  | negSucc a =>
    show Py.xor (Int.negSucc a) (Int.negSucc 0) = _
    simp only [Py.xor, Nat.xor_zero]
    simp [Int.negSucc_eq]

theorem zigzag_eq_spec (n : Int) (hlo : -(2^63) ≤ n) (hhi : n < 2^63) :
    Binary.zigzag n = (Spec.zigzag n : Int) := by
  unfold Binary.zigzag Spec.zigzag Py.shl
  rw [shr63 n hlo hhi]
  by_cases h : 0 ≤ n
  · rw [if_pos h, xor_zero_right]; simp [h]; omega
  · rw [if_neg h, xor_neg_one]; simp [h]; omega

theorem unzigzag_eq_spec (m : Nat) : Binary.unzigzag m = Spec.unzigzag m := by
  unfold Binary.unzigzag Spec.unzigzag Py.shr
  have hand : Py.and (m : Int) 1 = ((m % 2 : Nat) : Int) := by
    show Py.and (Int.ofNat m) (Int.ofNat 1) = _
    simp [Py.and, Nat.and_one_is_mod]
  rw [hand]
  have hshr : ((m : Int) >>> 1) = ((m / 2 : Nat) : Int) := by
    rw [Int.shiftRight_eq_div_pow]; simp
  rw [hshr]
  rcases Nat.mod_two_eq_zero_or_one m with h | h
  · simp [h, xor_zero_right]
  · rw [h]
    have : (-((1 : Nat) : Int)) = -1 := by simp
    rw [this, xor_neg_one]; simp

theorem varint_eq_spec (d : Nat) : Binary.varint d = Spec.varint d := by
  induction d using Binary.varint.induct with
  | case1 d h => rw [Binary.varint, Spec.varint, Spec.groups, if_pos h, if_pos h]; rfl
  | case2 d h ih =>
    -- the groups that follow are not empty, so this group gets its continuation bit
    obtain ⟨g, gs, hg⟩ : ∃ g gs, Spec.groups (d / 128) = g :: gs := by rw [Spec.groups]; split <;> exact ⟨_, _, rfl⟩
    rw [Binary.varint, if_neg h, ih, Spec.varint, Spec.varint, Spec.groups.eq_1 d, if_neg h, hg]; rfl

theorem encodeLong_eq_spec (n : Int) (hlo : -(2^63) ≤ n) (hhi : n < 2^63) :
    Binary.encodeLong n = WR.ok (Spec.encodeLong n) := by
  unfold Binary.encodeLong Spec.encodeLong
  have hz := zigzag_eq_spec n hlo hhi
  simp only [hz]
  have : ¬ ((Spec.zigzag n : Int) < 0) := by omega
  simp [this, varint_eq_spec]

theorem and7F (b : Nat) : b &&& 0x7F = b % 128 := Nat.and_two_pow_sub_one_eq_mod b 7
theorem and80 : ∀ b, b < 256 → (b &&& 0x80 != 0) = decide (128 ≤ b) := by decide +kernel

theorem loop_step (acc shift x : Nat) (rest : Bytes) (hx : x < 256) :
    decodeVarintLoop acc shift (UInt8.ofNat x :: rest) =
      if 128 ≤ x then decodeVarintLoop (acc ||| (x % 128) <<< shift) (shift + 7) rest
      else .ok (acc ||| (x % 128) <<< shift, rest) := by
  simp only [decodeVarintLoop, UInt8.toNat_ofNat_of_lt' hx, and7F, and80 x hx, decide_eq_true_eq]

theorem or_split (d : Nat) : d % 128 ||| (d / 128) <<< 7 = d := by
  rw [Nat.shiftLeft_eq, Nat.or_comm, Nat.mul_comm]
  exact (Nat.two_pow_add_eq_or_of_lt (i := 7) (Nat.mod_lt _ (by decide)) _).symm.trans (Nat.div_add_mod d 128)

theorem loop_varint (d : Nat) : ∀ (acc shift : Nat) (rest : Bytes),
    decodeVarintLoop acc shift (Binary.varint d ++ rest) = .ok (acc ||| d <<< shift, rest) := by
  induction d using Binary.varint.induct with
  | case1 d h =>
    intro acc shift rest
    rw [Binary.varint, if_pos h, List.singleton_append, loop_step _ _ _ _ (by omega), if_neg (by omega), Nat.mod_eq_of_lt h]
  | case2 d h ih =>
    intro acc shift rest
    -- the byte `d % 128 + 128` gives `acc ||| (d % 128) <<< shift`, the rest by `ih` adds `(d / 128) <<< (shift + 7)`;
    -- with the shift by `shift` pulled out of both, `or_split` puts `d` together again
    rw [Binary.varint, if_neg h, List.cons_append, loop_step _ _ _ _ (by omega), if_pos (by omega), Nat.add_mod_right,
      Nat.mod_mod, ih, Nat.or_assoc, Nat.add_comm shift, Nat.shiftLeft_add, ← Nat.shiftLeft_or_distrib, or_split]

/-- `read_long` reads its first byte outside the loop; apart from the exception raised on empty input it is
    the loop started at zero -/
theorem decodeLong_eq_loop {bs : Bytes} (h : bs ≠ []) :
    decodeLong bs = decodeVarintLoop 0 0 bs >>= fun (n, r) => pure (unzigzag n, r) := by
  cases bs with
  | nil => exact absurd rfl h
  | cons b rest =>
    simp only [decodeLong, decodeVarintLoop, Nat.shiftLeft_zero, Nat.zero_or, Nat.zero_add]
    split <;> rfl

theorem loop_err {p : Bytes} {acc sh : Nat} {e : Err} (h : decodeVarintLoop acc sh p = .error e) : e = .type := by
  induction p generalizing acc sh with
  | nil => cases h; rfl
  | cons b p ih =>
    rw [decodeVarintLoop] at h
    split at h
    · exact ih h
    · cases h

/-- `read_long` raises EOFError on empty input only; running dry later is the TypeError of `ord(b"")` -/
theorem decodeLong_err_nonempty {p : Bytes} {e : Err} (hp : p ≠ []) (h : decodeLong p = .error e) : e = .type := by
  rw [decodeLong_eq_loop hp] at h
  cases hl : decodeVarintLoop 0 0 p with
  | error e' => rw [hl] at h; cases h; exact loop_err hl
  | ok x => rw [hl] at h; cases h

theorem varint_ne_nil (d : Nat) : Binary.varint d ≠ [] := by
  unfold Binary.varint; split <;> exact List.cons_ne_nil _ _

theorem decodeLong_varint (d : Nat) (rest : Bytes) :
    decodeLong (Binary.varint d ++ rest) = .ok (Binary.unzigzag d, rest) := by
  rw [decodeLong_eq_loop (by simp [varint_ne_nil]), loop_varint, Nat.zero_or, Nat.shiftLeft_zero]; rfl

/-- `read_long` inverts the specification's encoding of every integer: the int64 range matters only to the
    writer, whose bit-twiddling zig-zag is the specification's on that range only -/
theorem decode_spec (n : Int) (rest : Bytes) : decodeLong (Spec.encodeLong n ++ rest) = .ok (n, rest) := by
  rw [Spec.encodeLong, ← varint_eq_spec, decodeLong_varint, unzigzag_eq_spec, Spec.unzigzag_zigzag]

end VarintProofs
