/-
  Proofs/Choose.lean — C09: the scan of `write_union` implements the documented choice rule.
-/
import Spec.Choose
import Proofs.R

namespace ChooseProofs
open Binary R

theorem scanUpdate_eq (env : Env) (v : Val) (st : Scan) (i : Nat) (c : Schema) :
    scanUpdate env v st i c =
      if Spec.isRecordBranch env c then
        if Spec.sharedWith env c v > st.most then { st with best := some i, most := Spec.sharedWith env c v } else st
      else if (unwrapRef env c).typeName == "float" then { st with best := some i, couldBeFloat := true }
      else { st with best := some i, done := true } := by
  unfold scanUpdate Spec.isRecordBranch Spec.sharedWith
  cases unwrapRef env c <;> rfl

variable {fuel : Nat} {env : Env} {o : WOpts} {v : Val}

theorem scan_done {st : Scan} (h : st.done = true) (i : Nat) (bs : List Schema) : scan fuel env o v st i bs = .ok st := by
  induction bs generalizing i with
  | nil => rfl
  | cons c cs ih => simp only [scan, scanStep, h, ↓reduceIte, pure_bind, ih]

theorem scan_couldBeFloat {st : Scan} (hd : st.done = false) (hc : st.couldBeFloat = true) (i : Nat) (bs : List Schema) :
    ∃ st', scan fuel env o v st i bs = .ok st' ∧
      st'.best = match Spec.firstFrom (fun d => d.typeName == "double") i bs with
        | some k => some k
        | none => st.best := by
  induction bs generalizing i with
  | nil => exact ⟨st, rfl, rfl⟩
  | cons c cs ih =>
    simp only [scan, scanStep, hd, hc, Spec.firstFrom, Bool.false_eq_true, ↓reduceIte]
    split
    · exact ⟨_, scan_done rfl _ _, rfl⟩
    · exact ih _

theorem scan_eq_spec {cf : Schema → Bool} {bs : List Schema}
    (hval : ∀ b ∈ bs, Validate.validate fuel env o.toV false "" b (some v) = .ok (cf b))
    {st : Scan} (hd : st.done = false) (hc : st.couldBeFloat = false) (i : Nat) :
    ∃ st', scan fuel env o v st i bs = .ok st' ∧ st'.best = Spec.chooseFrom cf env v st.best st.most i bs := by
  induction bs generalizing st i with
  | nil => exact ⟨st, rfl, rfl⟩
  | cons c cs ih =>
    have ih := @ih fun b hb => hval b (by simp [hb])
    simp only [scan, scanStep, hd, hc, hval c (by simp), Spec.chooseFrom, scanUpdate_eq, Bool.false_eq_true, ↓reduceIte,
      ok_bind]
    cases cf c
    · exact ih hd hc _
    simp only [Bool.not_true, Bool.false_eq_true, ↓reduceIte, pure_bind, Bool.true_and]
    cases Spec.isRecordBranch env c
    · simp only [Bool.false_eq_true, ↓reduceIte, Bool.not_false]
      split   -- on `typeName == "float"`: a float branch waits for a later double, any other branch ends the scan
      · exact scan_couldBeFloat rfl rfl _ _
      · exact ⟨_, scan_done rfl _ _, rfl⟩
    · simp only [↓reduceIte, Bool.not_true, Bool.false_eq_true, decide_eq_true_eq]
      split   -- on `sharedWith env c v > st.most`: a record sharing more field names becomes the best so far
      · exact ih rfl rfl _
      · exact ih hd hc _

end ChooseProofs
