/-
  Proofs/Pcf.lean — `Spec.pcf` by the form of the raw schema: one equation per form, with the lookups the form needs
  as hypotheses; a larger depth bound changes no result (`pcf_mono`).
-/
import Spec.Pcf
import Proofs.R

theorem Prim.name_mem_PRIMS (p : Prim) : Spec.PRIMS.contains p.name = true := by cases p <;> decide

theorem Prim.ofName_none {name : String} (h : Prim.ofName? name = none) : Spec.PRIMS.contains name = false := by
  cases hc : Spec.PRIMS.contains name with
  | false => rfl
  | true =>
    simp only [Spec.PRIMS, List.contains_cons, List.contains_nil, Bool.or_false, Bool.or_eq_true, beq_iff_eq] at hc
    rcases hc with rfl | rfl | rfl | rfl | rfl | rfl | rfl | rfl <;> simp [Prim.ofName?] at h

/-! Use these equations and never `simp [Spec.pcf]`, nor `split` (which is `simp`) on its if-chain over `type`: `simp`'s
    `ite` congruence can fail to close a branch and then lets the unifier decide equalities of string literals by `whnf`,
    at seconds apiece; `rw [pcf, ht]` does not look inside the branches. -/

namespace Spec
variable {fuel : Nat} {kv : List (Val × Val)} {ns ns' full : String}

theorem pcf_str (name : String) :
    pcf (fuel+1) (.str name) ns = if PRIMS.contains name then some (q name) else some (q (refName name ns)) := by
  rw [pcf]

theorem pcf_list (bs : List Val) :
    pcf (fuel+1) (.list bs) ns = (do
      let parts ← mapM? (fun b => pcf fuel b ns) bs
      some ("[" ++ commaSep parts ++ "]")) := by
  rw [pcf]

theorem pcf_prim {t : String} (ht : dictGetV kv "type" = some (.str t)) (hp : PRIMS.contains t = true) :
    pcf (fuel+1) (.dict kv) ns = some (q t) := by
  rw [pcf, ht]; exact if_pos hp

theorem pcf_array {items : Val} (ht : dictGetV kv "type" = some (.str "array")) (hi : dictGetV kv "items" = some items) :
    pcf (fuel+1) (.dict kv) ns = (do
      let i ← pcf fuel items ns
      some ("{\"type\":\"array\",\"items\":" ++ i ++ "}")) := by
  rw [pcf, ht, hi]; rfl

theorem pcf_map {values : Val} (ht : dictGetV kv "type" = some (.str "map")) (hv : dictGetV kv "values" = some values) :
    pcf (fuel+1) (.dict kv) ns = (do
      let v ← pcf fuel values ns
      some ("{\"type\":\"map\",\"values\":" ++ v ++ "}")) := by
  rw [pcf, ht, hv]; rfl

theorem pcf_enum {syms : List Val} (ht : dictGetV kv "type" = some (.str "enum")) (hn : fullNameOf kv ns = some (ns', full))
    (hs : dictGetV kv "symbols" = some (.list syms)) :
    pcf (fuel+1) (.dict kv) ns = (do
      let names ← mapM? symText syms
      some ("{\"name\":" ++ q full ++ ",\"type\":\"enum\",\"symbols\":[" ++ commaSep names ++ "]}")) := by
  rw [pcf, ht, hn, hs]; rfl

theorem pcf_fixed {n : Int} (ht : dictGetV kv "type" = some (.str "fixed")) (hn : fullNameOf kv ns = some (ns', full))
    (hz : dictGetV kv "size" = some (.int n)) :
    pcf (fuel+1) (.dict kv) ns = some ("{\"name\":" ++ q full ++ ",\"type\":\"fixed\",\"size\":" ++ toString n ++ "}") := by
  rw [pcf, ht, hn, hz]; rfl

theorem pcf_record (ht : dictGetV kv "type" = some (.str "record")) (hn : fullNameOf kv ns = some (ns', full)) :
    pcf (fuel+1) (.dict kv) ns = (do
      let parts ← mapM? (fieldTextWith fun ty => pcf fuel ty ns') (dictListOr kv "fields")
      some ("{\"name\":" ++ q full ++ ",\"type\":\"record\",\"fields\":[" ++ commaSep parts ++ "]}")) := by
  rw [pcf, ht, hn]; rfl

theorem commaSep_eq (l : List String) : commaSep l = ",".intercalate l := by
  induction l with
  | nil => rfl
  | cons a as ih =>
    cases as with
    | nil => simp [commaSep]
    | cons b bs => rw [String.intercalate_cons_cons, ← ih]; rfl

theorem mapM?_cons {α β} {f : α → Option β} {x : α} {xs : List α} {y : β} {ys : List β} (hx : f x = some y)
    (hxs : mapM? f xs = some ys) : mapM? f (x :: xs) = some (y :: ys) := by
  rw [mapM?, hx, hxs]; rfl

theorem fieldTextWith_dict {f : Val → Option String} {name t : String} {ty : Val} (hn : dictGetV kv "name" = some (.str name))
    (ht : dictGetV kv "type" = some ty) (hf : f ty = some t) :
    fieldTextWith f (.dict kv) = some ("{\"name\":" ++ q name ++ ",\"type\":" ++ t ++ "}") := by
  rw [fieldTextWith, hn, ht]
  show (f ty).bind _ = _
  rw [hf]; rfl

theorem mapM?_covers {α β} {f g : α → Option β} (h : ∀ x, Covers (f x) (g x)) : ∀ xs, Covers (mapM? f xs) (mapM? g xs)
  | [] => .refl
  | x :: xs => (h x).bind fun _ => (mapM?_covers h xs).bind fun _ => .refl

theorem fieldTextWith_covers {f g : Val → Option String} (h : ∀ v, Covers (f v) (g v)) (x : Val) :
    Covers (fieldTextWith f x) (fieldTextWith g x) := by
  cases x
  case dict => exact Covers.refl.bind fun _ => Covers.refl.bind fun ty => (h ty).bind fun _ => .refl
  all_goals exact .refl

/-- Both sides are the same expression but for the recursive calls: the proof walks the dispatch on `type` in both
    at once (by `rw`, for the reason above), and each leaf is `Covers` rules around the induction hypothesis. -/
theorem pcf_mono (fuel : Nat) : ∀ raw ns, Covers (pcf fuel raw ns) (pcf (fuel+1) raw ns) := by
  induction fuel with
  | zero => exact fun _ _ => .of_none
  | succ fuel ih =>
    intro raw ns
    cases raw
    case str name => rw [pcf_str, pcf_str]; exact .refl
    case list bs => rw [pcf_list, pcf_list]; exact (mapM?_covers (ih · ns) bs).bind fun _ => .refl
    case dict kv =>
      rw [pcf, pcf]
      cases dictGetV kv "type" with
      | none => exact .of_none
      | some tv =>
        cases tv
        case str ty =>
          dsimp only
          by_cases c0 : PRIMS.contains ty = true
          · rw [if_pos c0, if_pos c0]; exact .refl
          rw [if_neg c0, if_neg c0]
          by_cases c1 : (ty == "array") = true
          · rw [if_pos c1, if_pos c1]
            exact Covers.refl.bind fun items => (ih items ns).bind fun _ => .refl
          rw [if_neg c1, if_neg c1]
          by_cases c2 : (ty == "map") = true
          · rw [if_pos c2, if_pos c2]
            exact Covers.refl.bind fun values => (ih values ns).bind fun _ => .refl
          rw [if_neg c2, if_neg c2]
          by_cases c3 : (ty == "enum") = true
          · rw [if_pos c3, if_pos c3]; exact .refl
          rw [if_neg c3, if_neg c3]
          by_cases c4 : (ty == "fixed") = true
          · rw [if_pos c4, if_pos c4]; exact .refl
          rw [if_neg c4, if_neg c4]
          by_cases c5 : (ty == "record" || ty == "error") = true
          · rw [if_pos c5, if_pos c5]
            exact Covers.refl.bind fun (ns', _) => (mapM?_covers (fieldTextWith_covers (ih · ns')) _).bind fun _ => .refl
          · rw [if_neg c5]; exact .of_none
        all_goals exact .of_none
    all_goals exact .of_none

end Spec
