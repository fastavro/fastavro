/-
  Proofs/Validate.lean — C10: non-raising `validate` answers `Spec.conforms` (`validate_answers`, on `Answers`); raising
  mode is `lift` of it (`validate_raise_eq`).
-/
import Spec.Conforms
import Proofs.Schema

namespace ValidateProofs
open Validate

/-- what non-raising `_validate` owes the specification; ValidationError is excluded because the union loop
    swallows it -/
def Answers (r : R Bool) (c : Bool) : Prop :=
  match r with
  | .ok b => c = b
  | .error e => e ≠ .validation

theorem Answers.eq {r : R Bool} {c b : Bool} (h : Answers r c) (hr : r = .ok b) : c = b := by subst hr; exact h
theorem Answers.ne {r : R Bool} {c : Bool} (h : Answers r c) : r ≠ .error .validation := by
  rintro rfl; exact h rfl

/-- `x and k`, lazily: the step of both `all(...)` loops.  It is core's `x <&&> k`, in the shape in which `allM` and
    `fieldsWith` unfold (`allM_cons`, `fieldsWith_cons` by `rfl`) -/
def lazyAnd (x k : R Bool) : R Bool := do let b ← x; if b then k else pure false

theorem allM_cons (p : Val → R Bool) (x : Val) (xs : List Val) : allM p (x :: xs) = lazyAnd (p x) (allM p xs) := rfl

theorem fieldsWith_cons (vd : String → Schema → Option Val → R Bool) (full : String) (f : Field) (fs : List Field)
    (kv : List (Val × Val)) :
    fieldsWith vd full (f :: fs) kv =
      lazyAnd (vd (full ++ "." ++ f.name) f.type (match dictGetV kv f.name with | some v => some v | none => f.default))
        (fieldsWith vd full fs kv) := rfl

theorem lazyAnd_answers {x k : R Bool} {c d : Bool} (hx : Answers x c) (hk : Answers k d) : Answers (lazyAnd x k) (c && d) := by
  cases x with
  | error e => exact hx
  | ok b =>
    cases b <;> cases hx
    · rfl  -- `False`, without running `k`
    · exact hk

theorem allM_answers {p : Val → R Bool} {q : Val → Bool} {xs : List Val} (h : ∀ x ∈ xs, Answers (p x) (q x)) :
    Answers (allM p xs) (xs.all q) := by
  induction xs with
  | nil => rfl
  | cons x xs ih => rw [allM_cons]; exact lazyAnd_answers (h x (by simp)) (ih fun y hy => h y (by simp [hy]))

theorem fieldsWith_answers {vd : String → Schema → Option Val → R Bool} {q : Field → Bool} {full : String}
    {kv : List (Val × Val)} {fs : List Field}
    (h : ∀ f ∈ fs, Answers (vd (full ++ "." ++ f.name) f.type
      (match dictGetV kv f.name with | some v => some v | none => f.default)) (q f)) :
    Answers (fieldsWith vd full fs kv) (fs.all q) := by
  induction fs with
  | nil => rfl
  | cons f fs ih => rw [fieldsWith_cons]; exact lazyAnd_answers (h f (by simp)) (ih fun y hy => h y (by simp [hy]))

theorem hintWith_answers {vd : Schema → Option Val → R Bool} {q : Schema → Bool} {nameV inner : Val} {bs : List Schema}
    (h : ∀ s ∈ bs, Answers (vd s (some inner)) (q s)) :
    Answers (hintWith vd nameV inner bs) (match bs.find? (hintHits nameV) with | some s => q s | none => false) := by
  induction bs with
  | nil => rfl
  | cons s bs ih =>
    simp only [hintWith, List.find?_cons]
    cases hh : hintHits nameV s
    · exact ih fun y hy => h y (by simp [hy])
    · exact h s (by simp)

theorem unionWith_answers {vd : Schema → Option Val → R Bool} {q : Schema → Bool} {v : Val} {bs : List Schema}
    (h : ∀ s ∈ bs, Answers (vd s (some v)) (q s)) : Answers (unionWith vd v bs) (bs.any q) := by
  induction bs with
  | nil => rfl
  | cons s bs ih =>
    have hs := h s (by simp)
    have ih := ih fun y hy => h y (by simp [hy])
    simp only [unionWith, List.any_cons]
    split <;> rename_i heq <;> rw [heq] at hs
    · rw [show q s = true from hs]; rfl
    · rw [show q s = false from hs]; exact ih
    · exact absurd rfl hs
    · rename_i e _; exact hs

theorem validPrim_eq (p : Prim) (v : Val) : validPrim p v = Spec.conformsPrim p v := by
  have range (lo hi n : Int) (P : Prop) [Decidable P] (h : P ↔ lo ≤ n ∧ n ≤ hi) :
      (decide (lo ≤ n) && decide (n ≤ hi)) = decide P := by rw [Bool.eq_iff_iff]; simp [h]
  cases p <;> cases v <;> first
    | rfl
    | exact range INT_MIN INT_MAX _ _ (by unfold INT_MIN INT_MAX; omega)
    | exact range LONG_MIN LONG_MAX _ _ (by unfold LONG_MIN LONG_MAX; omega)

theorem asSeq_eq (v : Val) : asSeq? v = Spec.seqItems? v := by cases v <;> rfl

/-- what `_validate` one level down returns, in terms of the specification; `d = none` is a field that is absent and
    has no default: rejected in strict mode, read as `None` otherwise -/
def childSpec (cf : Schema → Val → Bool) (strict : Bool) (s : Schema) (d : Option Val) : Bool :=
  match d with
  | some x => cf s x
  | none => !strict && cf s .none

theorem node_answers {vd : String → Schema → Option Val → R Bool} {cf : Schema → Val → Bool} {env : Env} {o : VOpts}
    (field : String) (s : Schema) (v : Val) (henv : env.plain = true) (hs : s.plain = true)
    (hch : ∀ fld s d, s.plain = true → Answers (vd fld s d) (childSpec cf o.strict s d)) :
    Answers (validateNode vd env o field s v) (Spec.conformsNode cf env o.strict o.disableTuple s v) := by
  cases s with
  | prim p df lt =>
    obtain rfl : lt = none := by simpa [Schema.plain] using hs
    exact (validPrim_eq p v).symm
  | fixed n sz lt al =>
    obtain rfl : lt = none := by simpa [Schema.plain] using hs
    exact rfl
  | enum n syms d al => exact rfl
  | array items =>
    simp only [validateNode, Spec.conformsNode, asSeq_eq]
    cases Spec.seqItems? v with
    | none => rfl
    | some xs => exact allM_answers fun x _ => hch _ _ _ hs
  | map values =>
    cases v <;> try exact rfl
    rename_i kv
    simp only [validateNode, Spec.conformsNode]
    cases kv.all fun e => e.1.isStr
    · rfl
    · have := allM_answers (q := cf values) (xs := kv.map (·.2)) fun x _ => hch field values (some x) hs
      rwa [List.all_map] at this
  | record n fields al =>
    cases v <;> try exact rfl
    rename_i kv
    simp only [validateNode, Spec.conformsNode]
    cases typeHintOk kv n
    · rfl
    · refine fieldsWith_answers fun f hf => ?_
      have := hch (recFullname n field ++ "." ++ f.name) _
        (match dictGetV kv f.name with | some v => some v | none => f.default) (Schema.plainFields_iff.mp hs f hf)
      -- `childSpec` of "the value looked up, else the default" is the specification's nested match for a field, arm by arm
      revert this
      cases dictGetV kv f.name <;> cases f.default <;> exact id
  | union branches =>
    have hb := fun s hsm d => hch field s d (Schema.plainList_iff.mp hs s hsm)
    have hU : ∀ v', Answers (unionWith (fun b d => vd field b d) v' branches) (branches.any fun s => cf s v') :=
      fun v' => unionWith_answers fun s hsm => hb s hsm _
    cases v <;> cases hd : o.disableTuple <;> simp only [validateNode, Spec.conformsNode, hd] <;> try exact hU _
    -- the remaining goal: a tuple with tuple notation enabled
    rename_i xs
    match xs with
    | [nameV, inner] => exact hintWith_answers (q := (cf · inner)) fun s hsm => hb s hsm _
    | [] | [_] | _ :: _ :: _ :: _ => nofun
  | ref n =>
    simp only [validateNode, Spec.conformsNode]
    cases hg : env.get? n with
    | none => nofun
    | some s' => exact hch _ _ (some v) (Env.all_get? (p := Schema.plain) henv hg)

/-- what raising mode turns a non-raising result into -/
def lift (r : R Bool) : R Bool :=
  match r with
  | .ok false => .error .validation
  | x => x

theorem validate_succ (fuel : Nat) (env : Env) (o : VOpts) (raise : Bool) (field : String) (s : Schema) (d : Option Val) :
    validate (fuel + 1) env o raise field s d =
      (if raise then lift else id) (if d.isNone && o.strict then pure false
        else validateNode (validate fuel env o raise) env o field s (d.getD .none)) := by
  simp only [validate]
  generalize (if (d.isNone && o.strict) = true then pure false else validateNode _ env o field s _) = x
  cases raise <;> cases x <;> first | rfl | (rename_i b; cases b <;> rfl)

theorem validate_answers (env : Env) (o : VOpts) (henv : env.plain = true) (fuel : Nat) :
    ∀ field s d, s.plain = true → Answers (validate fuel env o false field s d)
      (childSpec (Spec.conforms fuel env o.strict o.disableTuple) o.strict s d) := by
  induction fuel with
  | zero => intro _ _ _ _; nofun
  | succ fuel ih =>
    intro field s d hs
    have hn := fun v => node_answers field s v henv hs ih
    rw [validate_succ]
    cases d with
    | some x => exact hn x
    | none =>
      cases hst : o.strict <;> simp only [hst] at hn ⊢
      · exact hn .none  -- not strict: validated as `None`
      · rfl  -- strict: rejected on both sides

theorem validate_eq_conforms {env : Env} {o : VOpts} {fuel : Nat} {field : String} {s : Schema} {d : Option Val} {b : Bool}
    (henv : env.plain = true) (hs : s.plain = true) (h : validate fuel env o false field s d = .ok b) :
    childSpec (Spec.conforms fuel env o.strict o.disableTuple) o.strict s d = b :=
  (validate_answers env o henv fuel field s d hs).eq h

theorem lift_lift (r : R Bool) : lift (lift r) = lift r := by
  cases r with
  | error e => rfl
  | ok b => cases b <;> rfl

theorem lazyAnd_lift {xT xF kT kF : R Bool} (hx : xT = lift xF) (hk : lift kT = lift kF) :
    lift (lazyAnd xT kT) = lift (lazyAnd xF kF) := by
  subst hx
  cases xF with
  | error e => rfl
  | ok b => cases b <;> first | rfl | exact hk

theorem allM_lift {pT pF : Val → R Bool} (xs : List Val) (h : ∀ x, pT x = lift (pF x)) :
    lift (allM pT xs) = lift (allM pF xs) := by
  induction xs with
  | nil => rfl
  | cons x xs ih => rw [allM_cons, allM_cons]; exact lazyAnd_lift (h x) ih

theorem fieldsWith_lift {vT vF : String → Schema → Option Val → R Bool} (full : String) (fs : List Field)
    (kv : List (Val × Val)) (h : ∀ fld s d, vT fld s d = lift (vF fld s d)) :
    lift (fieldsWith vT full fs kv) = lift (fieldsWith vF full fs kv) := by
  induction fs with
  | nil => rfl
  | cons f fs ih => rw [fieldsWith_cons, fieldsWith_cons]; exact lazyAnd_lift (h _ _ _) ih

theorem hintWith_lift {vT vF : Schema → Option Val → R Bool} (nameV inner : Val) (bs : List Schema)
    (h : ∀ s d, vT s d = lift (vF s d)) :
    lift (hintWith vT nameV inner bs) = lift (hintWith vF nameV inner bs) := by
  induction bs with
  | nil => rfl
  | cons b bs ih =>
    simp only [hintWith]
    split
    · rw [h, lift_lift]
    · exact ih

theorem unionWith_lift {vT vF : Schema → Option Val → R Bool} (v : Val) (bs : List Schema)
    (h : ∀ s d, vT s d = lift (vF s d)) : unionWith vT v bs = unionWith vF v bs := by
  induction bs with
  | nil => rfl
  | cons b bs ih =>
    simp only [unionWith, h]
    cases hp : vF b (some v) with
    | error e => cases e <;> simp [lift, ih]
    | ok r => cases r <;> simp [lift, ih]

theorem node_lift {vT vF : String → Schema → Option Val → R Bool} (env : Env) (o : VOpts) (field : String)
    (s : Schema) (v : Val) (h : ∀ fld s d, vT fld s d = lift (vF fld s d)) :
    lift (validateNode vT env o field s v) = lift (validateNode vF env o field s v) := by
  cases s with
  | prim p df lt => rfl
  | fixed n sz lt al => rfl
  | enum n syms d al => rfl
  | array items =>
    simp only [validateNode]
    split
    · exact allM_lift _ fun x => h _ _ _
    · rfl
  | map values =>
    cases v <;> simp only [validateNode]
    split
    · exact allM_lift _ fun x => h _ _ _
    · rfl
  | record n fields al =>
    cases v <;> simp only [validateNode]
    split
    · rfl
    · exact fieldsWith_lift _ _ _ h
  | union branches =>
    simp only [validateNode]
    split
    · split
      · exact hintWith_lift _ _ _ fun s d => h _ _ _
      · rfl
    · rw [unionWith_lift _ _ fun s d => h _ _ _]
  | ref n =>
    simp only [validateNode]
    split
    · rw [h, lift_lift]
    · rfl

theorem validate_raise_eq (env : Env) (o : VOpts) (fuel : Nat) :
    ∀ field s d, validate fuel env o true field s d = lift (validate fuel env o false field s d) := by
  induction fuel with
  | zero => intro field s d; rfl
  | succ fuel ih =>
    intro field s d
    simp only [validate_succ, ↓reduceIte, Bool.false_eq_true, id]
    split
    · rfl
    · exact node_lift env o field s _ ih

end ValidateProofs
