/-
  Proofs/Codec.lean — the writer on a datum with a normal form (C01, C02): what `write_data` emits is the
  specification's encoding, and `read_data` reads it back as the normal form.  The two facts are proved
  together, by one induction over the writer (`write_faithful`); `Faithful` is what they say of one datum.
-/
import Spec.Normalize
import Proofs.Loops
import Proofs.Dict

namespace EncodeProofs
open Binary

/-- the branch selection the writer makes, as a `pick` parameter of the specification encoder -/
def writerPick (env : Env) (o : WOpts) : Nat → List Schema → Val → Option (Nat × Val) :=
  fun f bs v => (choose f env o bs v).toOption

end EncodeProofs

namespace CodecProofs
open Binary BasicProofs VarintProofs Loops Dict EncodeProofs

theorem encLen_some {n : Nat} (h : n < 2 ^ 63) : Spec.encLen n = some (Spec.encodeLong (n : Int)) :=
  if_pos h

theorem zero_byte : encodeLong 0 = ⟨[0], none⟩ ∧ Spec.encodeLong 0 = [0] := by decide +kernel

theorem lenPrefixed {b bs : Bytes} (hl : b.length < 2 ^ 63)
    (h : (encodeLong (b.length : Int)).append (WR.ok b) = ⟨bs, none⟩) : bs = Spec.encodeLong b.length ++ b := by
  rw [encLen_eq _ hl] at h; cases h; rfl

theorem dictGet_eq (kv : List (Val × Val)) (k : String) : Spec.dictGet kv k = dictGetV kv k := by
  induction kv with
  | nil => rfl
  | cons e rest ih =>
    obtain ⟨k0, x⟩ := e
    unfold Spec.dictGet at ih ⊢
    rw [dictGetV_cons, List.find?_cons]
    -- the test `Spec.dictGet` makes of a key is `Val.strEq`, written out
    change Option.map _ (match k0.strEq k with | true => _ | false => _) = _
    cases k0.strEq k
    · exact ih
    · rfl

theorem int32 {n : Int} (h : Validate.INT_MIN ≤ n ∧ n ≤ Validate.INT_MAX) : -(2:Int)^31 ≤ n ∧ n < 2^31 := by
  simp only [Validate.INT_MIN, Validate.INT_MAX] at h; omega

theorem int64 {n : Int} (h : Validate.LONG_MIN ≤ n ∧ n ≤ Validate.LONG_MAX) : Spec.I64 n := by
  simp only [Validate.LONG_MIN, Validate.LONG_MAX] at h; unfold Spec.I64; omega

theorem encodeI64 {n : Int} (h : Spec.I64 n) {bs : Bytes} (hw : encodeLong n = ⟨bs, none⟩) : bs = Spec.encodeLong n := by
  rw [encodeLong_eq_spec n h.1 h.2] at hw; cases hw; rfl

theorem prim_enc {p : Prim} {v nf : Val} {bs : Bytes}
    (hw : writePrim p v = ⟨bs, none⟩) (hn : Spec.normPrim p v = some nf) :
    Spec.EncPrim p nf bs ∧ Spec.encPrim p v = some bs := by
  cases p <;> cases v <;> simp only [Spec.normPrim, reduceCtorEq] at hn
  case null.none => cases hn; cases hw; exact ⟨.null, rfl⟩
  case boolean.bool b => cases hn; cases hw; exact ⟨.boolean b, rfl⟩
  case int.int n =>
    split at hn <;> cases hn
    rename_i h; have h32 := int32 h
    cases encodeI64 ⟨by omega, by omega⟩ hw
    exact ⟨.int n h32, if_pos h32⟩
  case long.int n =>
    split at hn <;> cases hn
    rename_i h; have h64 := int64 h
    cases encodeI64 h64 hw
    exact ⟨.long n h64, if_pos h64⟩
  case float.int n =>
    obtain ⟨d, hd, f, hf, rfl⟩ : ∃ d, Fl.ofInt n = some d ∧ ∃ f, Fl.f64ToF32 d = some f ∧ Val.float (Fl.f32ToF64 f) = nf := by
      simpa [Option.bind_eq_some_iff] using hn
    simp only [writePrim, encFloat, toDouble?, hd, hf] at hw; cases hw
    exact ⟨by rw [u32LE, ← leBytes_eq]; exact .float f, by simp [Spec.encPrim, hd, hf, u32LE, leBytes_eq]⟩
  case float.float b =>
    obtain ⟨f, hf, rfl⟩ := Option.map_eq_some_iff.mp hn
    simp only [writePrim, encFloat, toDouble?, hf] at hw; cases hw
    exact ⟨by rw [u32LE, ← leBytes_eq]; exact .float f, by simp [Spec.encPrim, hf, u32LE, leBytes_eq]⟩
  case double.int n =>
    obtain ⟨d, hd, rfl⟩ := Option.map_eq_some_iff.mp hn
    simp only [writePrim, encDouble, toDouble?, hd] at hw; cases hw
    exact ⟨by rw [u64LE, ← leBytes_eq]; exact .double d, by simp [Spec.encPrim, hd, u64LE, leBytes_eq]⟩
  case double.float b =>
    cases hn; cases hw
    exact ⟨by rw [u64LE, ← leBytes_eq]; exact .double b, by simp [Spec.encPrim, u64LE, leBytes_eq]⟩
  case bytes.bytes b | bytes.bytearray b =>
    split at hn <;> cases hn
    rename_i h; cases lenPrefixed h hw
    exact ⟨.bytes b h, by simp [Spec.encPrim, encLen_some h]⟩
  case string.str s =>
    split at hn <;> cases hn
    rename_i h; cases lenPrefixed h hw
    exact ⟨.string s h, by simp [Spec.encPrim, encLen_some h]⟩

/-- `w`, `nm`, `f`, `rd` stand for `writeData`, `Spec.normalize`, `Spec.encode`, `readData` one level down -/
def Faithful (w : Val → WR) (nm : Val → Option Val) (f : Val → Option Bytes) (rd : Bytes → R (Val × Bytes))
    (x : Val) : Prop :=
  ∀ b nf, w x = ⟨b, none⟩ → nm x = some nf → f x = some b ∧ Reads rd nf b

section
variable {w : Val → WR} {nm : Val → Option Val} {f : Val → Option Bytes} {rd : Bytes → R (Val × Bytes)}

theorem items_faithful {xs nfs : List Val} {bs : Bytes} (hg : ∀ x ∈ xs, Faithful w nm f rd x)
    (hw : WR.concat (xs.map w) = ⟨bs, none⟩) (hn : Spec.mapM' nm xs = some nfs) :
    Spec.concatM f xs = some bs ∧ Reads (readItemsWith rd xs.length) nfs bs := by
  induction xs generalizing bs nfs with
  | nil => cases hw; cases hn; exact ⟨rfl, readItemsWith_nil⟩
  | cons x xs ih =>
    obtain ⟨b1, b2, h1, h2, rfl⟩ := append_ok_iff.mp hw
    obtain ⟨nf, hnf, nfs', hnfs, rfl⟩ : ∃ nf, nm x = some nf ∧ ∃ nfs', Spec.mapM' nm xs = some nfs' ∧ nf :: nfs' = nfs := by
      simpa [Spec.mapM', Option.bind_eq_some_iff] using hn
    obtain ⟨e1, r1⟩ := hg x List.mem_cons_self b1 nf h1 hnf
    obtain ⟨e2, r2⟩ := ih (fun y hy => hg y (List.mem_cons_of_mem _ hy)) h2 hnfs
    exact ⟨by simp [Spec.concatM, e1, e2], readItemsWith_cons r1 r2⟩

/-- map entries: the reader rebuilds the dict in the order written as long as the keys stay distinct -/
theorem entries_faithful {kv nkv : List (Val × Val)} {bs : Bytes} (hg : ∀ e ∈ kv, Faithful w nm f rd e.2)
    (hstr : ∀ e ∈ kv, ∃ k, e.1 = .str k ∧ (utf8Enc k).length < 2 ^ 63)
    (hw : WR.concat (kv.map fun (k, x) => (encUtf8 k).append (w x)) = ⟨bs, none⟩)
    (hn : Spec.normEntriesWith nm kv = some nkv) :
    Spec.entriesM f kv = some bs ∧ ∀ acc, (dictKeys acc ++ dictKeys kv).Nodup →
      Reads (readEntriesWith rd kv.length · acc) (acc ++ nkv) bs := by
  induction kv generalizing bs nkv with
  | nil => cases hw; cases hn; exact ⟨rfl, fun acc _ => by rw [List.append_nil]; exact readEntriesWith_nil⟩
  | cons e kv ih =>
    obtain ⟨_, x⟩ := e
    obtain ⟨k, rfl, hk⟩ := hstr _ List.mem_cons_self
    obtain ⟨_, b2, h1, h2, rfl⟩ := append_ok_iff.mp hw
    obtain ⟨bk, bx, hbk, hbx, rfl⟩ := append_ok_iff.mp h1
    cases lenPrefixed hk hbk
    obtain ⟨nf, hnf, nkv', hnkv, rfl⟩ : ∃ nf, nm x = some nf ∧ ∃ nkv', Spec.normEntriesWith nm kv = some nkv' ∧
        (Val.str k, nf) :: nkv' = nkv := by
      simpa [Spec.normEntriesWith, Option.bind_eq_some_iff] using hn
    obtain ⟨e1, r1⟩ := hg _ List.mem_cons_self bx nf hbx hnf
    obtain ⟨e2, r2⟩ := ih (fun y hy => hg y (List.mem_cons_of_mem _ hy)) (fun y hy => hstr y (List.mem_cons_of_mem _ hy)) h2 hnkv
    refine ⟨by simp [Spec.entriesM, Spec.encPrim, encLen_some hk, e1, e2], fun acc hnd => ?_⟩
    rw [dictKeys_cons_str] at hnd
    obtain ⟨hset, hnd'⟩ := set_next nf hnd
    rw [List.append_assoc, List.append_cons acc]
    refine readEntriesWith_cons r1 ?_
    rw [hset]; exact r2 _ hnd'
end

theorem pyFloat_same {pick : Nat → List Schema → Val → Option (Nat × Val)} {fuel : Nat} {env : Env} {o : WOpts}
    {p : Prim} (hp : p = .float ∨ p = .double) {lt : Option LogT} {dv dv' nf : Val} (hc : pyFloat dv = .ok dv')
    (hn : Spec.normalize fuel env o (.prim p false lt) dv = some nf) :
    Spec.normalize fuel env o (.prim p false lt) dv' = some nf ∧
      Spec.encode pick fuel env (.prim p false lt) dv' = Spec.encode pick fuel env (.prim p false lt) dv := by
  cases fuel with
  | zero => cases hn
  | succ fuel =>
    cases lt with
    | some l => cases hn
    | none =>
      simp only [Spec.normalize, Spec.encode] at hn ⊢
      cases dv <;> simp only [pyFloat, reduceCtorEq] at hc
      case float b => cases hc; exact ⟨hn, rfl⟩
      case bool b => rcases hp with rfl | rfl <;> cases hn
      case int n =>
        cases ho : Fl.ofInt n with
        | none => simp [ho] at hc
        | some d =>
          simp only [ho, Except.ok.injEq] at hc; subst hc
          rcases hp with rfl | rfl <;> simpa [Spec.normPrim, Spec.encPrim, ho] using hn

theorem coerce_same {pick : Nat → List Schema → Val → Option (Nat × Val)} {fuel : Nat} {env : Env} {o : WOpts}
    {t : Schema} {dv dv' nf : Val} (hc : fieldCoerce t dv = .ok dv') (hn : Spec.normalize fuel env o t dv = some nf) :
    Spec.normalize fuel env o t dv' = some nf ∧ Spec.encode pick fuel env t dv' = Spec.encode pick fuel env t dv := by
  unfold fieldCoerce at hc
  split at hc
  · exact pyFloat_same (.inl rfl) hc hn
  · exact pyFloat_same (.inr rfl) hc hn
  · cases hc; exact ⟨hn, rfl⟩

section
variable {w : Schema → Val → WR} {nm : Schema → Val → Option Val} {f : Schema → Val → Option Bytes}
  {rd : Schema → Bytes → R (Val × Bytes)}

theorem fields_faithful {o : WOpts} {fs : List Field} {kv nkv : List (Val × Val)} {bs : Bytes}
    (hg : ∀ fl ∈ fs, ∀ v, Faithful (w fl.type) (nm fl.type) (f fl.type) (rd fl.type) v)
    (hco : ∀ fl ∈ fs, ∀ dv dv' nf, fieldCoerce fl.type dv = .ok dv' → nm fl.type dv = some nf →
        nm fl.type dv' = some nf ∧ f fl.type dv' = f fl.type dv)
    (hw : writeFieldsWith w o fs kv = ⟨bs, none⟩) (hn : Spec.normFieldsWith nm fs kv = some nkv) :
    Spec.fieldsM f fs kv = some bs ∧ ∀ acc, (dictKeys acc ++ fs.map Field.name).Nodup →
      Reads (readFieldsWith rd fs · acc) (acc ++ nkv) bs := by
  induction fs generalizing bs nkv with
  | nil => cases hw; cases hn; exact ⟨rfl, fun acc _ => by rw [List.append_nil]; exact readFieldsWith_nil⟩
  | cons fl fs ih =>
    simp only [writeFieldsWith] at hw
    split at hw
    · simp at hw
    · split at hw
      · simp at hw
      · rename_i dv' hc
        obtain ⟨b1, b2, h1, h2, rfl⟩ := append_ok_iff.mp hw
        simp only [Spec.normFieldsWith, Option.bind_eq_bind, Option.bind_eq_some_iff, Option.some.injEq] at hn
        obtain ⟨nf, hnf, nkv', hnkv, rfl⟩ := hn
        obtain ⟨hnf', hf⟩ := hco fl List.mem_cons_self _ dv' nf hc hnf
        obtain ⟨e1, r1⟩ := hg fl List.mem_cons_self dv' b1 nf h1 hnf'
        obtain ⟨e2, r2⟩ := ih (fun g hg' => hg g (List.mem_cons_of_mem _ hg')) (fun g hg' => hco g (List.mem_cons_of_mem _ hg')) h2 hnkv
        refine ⟨?_, fun acc hnd => ?_⟩
        · have e0 : f fl.type ((Spec.dictGet kv fl.name).getD (fl.default.getD Val.none)) = some b1 := by
            rw [dictGet_eq, ← e1, hf]; cases dictGetV kv fl.name <;> rfl
          simp only [Spec.fieldsM, e0, e2, Option.bind_eq_bind, Option.bind_some]
        · obtain ⟨hset, hnd'⟩ := set_next nf hnd
          rw [List.append_cons acc]
          refine readFieldsWith_cons r1 ?_
          rw [hset]; exact r2 _ hnd'
end

/-- The writer's layout of an array or map is `Spec.block` of the elements' bytes.  For an empty collection it emits
    the terminator alone and never runs the element writers, so `hw` says nothing of `body` there: `h0`. -/
theorem block_wr {α} {xs : List α} (hl : xs.length < 2 ^ 63) {body : WR} {bs : Bytes} (h0 : xs = [] → body = ⟨[], none⟩)
    (hw : (if xs.isEmpty then encodeLong 0
           else ((encodeLong xs.length).append body).append (encodeLong 0)) = ⟨bs, none⟩) :
    ∃ b, body = ⟨b, none⟩ ∧ Spec.block xs.length b = some bs := by
  cases xs with
  | nil => rw [if_pos List.isEmpty_nil, zero_byte.1] at hw; cases hw; exact ⟨[], h0 rfl, rfl⟩
  | cons x xs =>
    rw [if_neg (by simp), encLen_eq _ hl, zero_byte.1] at hw
    obtain ⟨_, _, h12, h3, rfl⟩ := append_ok_iff.mp hw
    obtain ⟨_, b, h1, h2, rfl⟩ := append_ok_iff.mp h12
    cases h1; cases h3
    exact ⟨b, h2, by rw [Spec.block, if_neg (by simp), encLen_some hl]; rfl⟩

theorem block_cases {n : Nat} {body bs : Bytes} (hb : Spec.block n body = some bs) :
    (n = 0 ∧ bs = Spec.encodeLong 0) ∨ (n ≠ 0 ∧ bs = Spec.encodeLong n ++ (body ++ Spec.encodeLong 0)) := by
  unfold Spec.block at hb
  split at hb
  · exact .inl ⟨‹_›, by cases hb; exact zero_byte.2.symm⟩
  · unfold Spec.encLen at hb
    split at hb
    · cases hb; exact .inr ⟨‹_›, by rw [zero_byte.2]; exact List.append_assoc ..⟩
    · cases hb

section
variable {fuel : Nat} {env : Env} {ro : ROpts} {n : Nat} {body bs : Bytes}

theorem array_read {items xs} (hb : Spec.block n body = some bs) (hi : Reads (readItemsWith (readData fuel env ro items) n) xs body) :
    Reads (readData (fuel+1) env ro (.array items)) (.list xs) bs := by
  rcases block_cases hb with ⟨rfl, rfl⟩ | ⟨h0, rfl⟩
  · cases hi.unique rfl  -- no items are read, so `xs = []`
    rw [← List.append_nil (Spec.encodeLong 0)]
    exact readData_array readBlocksWith_done
  · exact readData_array (readBlocksWith_single (Nat.pos_of_ne_zero h0) hi)

theorem map_read {values kv} (hb : Spec.block n body = some bs)
    (hi : Reads (readEntriesWith (readData fuel env ro values) n · []) kv body) :
    Reads (readData (fuel+1) env ro (.map values)) (.dict kv) bs := by
  rcases block_cases hb with ⟨rfl, rfl⟩ | ⟨h0, rfl⟩
  · cases hi.unique rfl
    rw [← List.append_nil (Spec.encodeLong 0)]
    exact readData_map readMapBlocksWith_done
  · exact readData_map (readMapBlocksWith_single (Nat.pos_of_ne_zero h0) hi)
end

theorem write_faithful (env : Env) (o : WOpts) (fuel : Nat) : ∀ (s : Schema) (v : Val),
    Faithful (writeData fuel env o s) (Spec.normalize fuel env o s) (Spec.encode (writerPick env o) fuel env s)
      (readData fuel env {} s) v := by
  induction fuel with
  | zero => intro s v b nf hw; simp [writeData] at hw
  | succ fuel ih =>
    intro s v bs nf hw hn
    cases s with
    | prim p df lt =>
      cases lt with
      | some l => cases hn
      | none =>
        obtain ⟨he, hs⟩ := prim_enc (p := p) hw hn
        exact ⟨hs, readData_prim he⟩
    | fixed name size lt aliases =>
      cases lt with
      | some l => cases hn
      | none =>
        simp only [Spec.normalize] at hn
        cases v <;> simp only [reduceCtorEq] at hn
        split at hn <;> cases hn
        rename_i hl
        simp only [writeData, Logical.prepare, encFixed, hl, bne_self_eq_false, Bool.false_eq_true, ↓reduceIte] at hw
        cases hw
        exact ⟨by simp [Spec.encode, hl], readData_fixed hl⟩
    | enum name syms dflt aliases =>
      simp only [Spec.normalize] at hn
      cases v <;> simp only [reduceCtorEq] at hn
      split at hn <;> cases hn
      rename_i x hc
      simp only [writeData, encEnum] at hw
      split at hw
      · rename_i i hi
        obtain ⟨hidx, hlt⟩ := indexOf_findIdx hi
        have hi63 : i < 2 ^ 63 := Nat.lt_trans hlt hc.2
        rw [encLen_eq _ hi63] at hw; cases hw
        exact ⟨by simp [Spec.encode, hidx, hlt, encLen_some hi63], readData_enum (indexOf_get hi)⟩
      · simp at hw
    | array items =>
      have key : ∀ xs : List Val, iterItems? v = some xs → xs.length < Spec.LIMIT →
          ∀ nfs, Spec.mapM' (Spec.normalize fuel env o items) xs = some nfs →
          (Spec.concatM (Spec.encode (writerPick env o) fuel env items) xs).bind (Spec.block xs.length) = some bs ∧
          Reads (readData (fuel + 1) env {} (.array items)) (.list nfs) bs := by
        intro xs hit hl nfs hnfs
        simp only [writeData, hit] at hw
        obtain ⟨body, hbody, hb⟩ := block_wr hl (fun h => by rw [h]; rfl) hw
        obtain ⟨he, hr⟩ := items_faithful (fun x _ => ih items x) hbody hnfs
        exact ⟨by rw [he]; exact hb, array_read hb hr⟩
      simp only [Spec.normalize] at hn
      cases v <;> simp only [reduceCtorEq] at hn
      all_goals
        obtain ⟨hl, hn⟩ := Option.ite_none_right_eq_some.mp hn
        obtain ⟨nfs, hnfs, rfl⟩ := Option.map_eq_some_iff.mp hn
        simpa [Spec.encode] using key _ rfl hl nfs hnfs
    | map values =>
      simp only [Spec.normalize] at hn
      cases v <;> simp only [reduceCtorEq] at hn
      rename_i kv
      obtain ⟨⟨hkeys, hl, hutf⟩, hn⟩ := Option.ite_none_right_eq_some.mp hn
      obtain ⟨nkv, hnkv, rfl⟩ := Option.map_eq_some_iff.mp hn
      have hstr : ∀ e ∈ kv, ∃ k, e.1 = .str k ∧ (utf8Enc k).length < 2 ^ 63 := by
        intro e he
        have := List.all_eq_true.mp hutf e he
        obtain ⟨k, x⟩ := e
        cases k <;> simp at this
        exact ⟨_, rfl, this⟩
      have hnd : (dictKeys kv).Nodup := by
        simp only [Spec.keysOk, Bool.and_eq_true, decide_eq_true_eq] at hkeys; exact hkeys.2
      simp only [writeData] at hw
      obtain ⟨body, hbody, hb⟩ := block_wr hl (fun h => by rw [h]; rfl) hw
      obtain ⟨he, hr⟩ := entries_faithful (fun e _ => ih values e.2) hstr hbody hnkv
      exact ⟨by simp only [Spec.encode, he]; exact hb, map_read hb (hr [] hnd)⟩
    | union branches =>
      simp only [Spec.normalize] at hn
      simp only [writeData] at hw
      cases hc : choose fuel env o branches v with
      | error e => simp [hc] at hn
      | ok iv =>
        obtain ⟨i, v'⟩ := iv
        simp only [hc] at hn hw
        cases hb : branches[i]? with
        | none => simp [hb] at hn
        | some b =>
          simp only [hb] at hn hw
          obtain ⟨hl, hn⟩ := Option.ite_none_right_eq_some.mp hn
          have hi : i < 2 ^ 63 := Nat.lt_trans (List.getElem?_eq_some_iff.mp hb).1 hl
          rw [encLen_eq _ hi] at hw
          obtain ⟨_, b2, h1, h2, rfl⟩ := append_ok_iff.mp hw
          cases h1
          obtain ⟨he, hr⟩ := ih b v' b2 nf h2 hn
          exact ⟨by simp [Spec.encode, writerPick, hc, Except.toOption, hb, encLen_some hi, he], readData_union hb hr⟩
    | record name fields aliases =>
      simp only [Spec.normalize] at hn
      cases v <;> simp only [reduceCtorEq] at hn
      rename_i kv
      obtain ⟨hnd, hn⟩ := Option.ite_none_right_eq_some.mp hn
      obtain ⟨nkv, hnkv, rfl⟩ := Option.map_eq_some_iff.mp hn
      simp only [writeData] at hw
      split at hw
      · simp at hw
      · obtain ⟨he, hr⟩ := fields_faithful (fun f _ v => ih f.type v) (fun f _ dv dv' nf' hc hn' => coerce_same hc hn') hw hnkv
        exact ⟨by simp only [Spec.encode]; exact he, readData_record (hr [] hnd)⟩
    | ref n =>
      simp only [Spec.normalize] at hn
      simp only [writeData] at hw
      cases hg : env.get? n with
      | none => simp [hg] at hn
      | some s' =>
        simp only [hg] at hn hw
        obtain ⟨he, hr⟩ := ih s' v bs nf hw hn
        exact ⟨by simp only [Spec.encode, hg]; exact he, readData_ref hg hr⟩

end CodecProofs
