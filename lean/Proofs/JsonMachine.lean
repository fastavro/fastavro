/-
  Proofs/JsonMachine.lean — the push-down machine of fastavro/io/parser.py + AvroJSONEncoder
  (Model/JsonMachine.lean) computes the function-level JSON encoding (Model/Json.lean: `Json.encode`).

  The parser executes actions lazily: after a value its closing actions (FieldEnd, RecordEnd, UnionEnd) are still on
  the stack, and only the next `advance` runs them.  The proof carries them as ghost state: `Pend st tail e` — behind
  pending actions the stack is `tail`, and once they are executed the encoder is `e`.  Around one value: `Entry` (the
  stack only has to BEHAVE like pending actions on the value's symbol — `Behaves`: productions may still be folded) and
  `Exit` (pending actions on what follows the symbol; the encoder they lead to is known up to `_key`, which nobody
  restores when a container closes: `sameButKey`).  `Writes f G j`: the traversal `f` takes every `Entry` at `G` to the
  `Exit` with `j` written where `write_value` puts it.  `Sound` says so of `mEncode`; it is proved by induction on the
  nesting depth (`sound_all`), one lemma per kind of schema, the loops by induction over the data with the frame below
  the container as invariant; closing a container is `write_value` of its content in the state in which it was opened
  (`pop_eq_write`).  `encodeAll_sound` is a whole `json_writer` call: the root symbol restarts the grammar for every
  record (`behaves_root`).
-/
import Proofs.JsonGrammar
import Proofs.Dict
import Proofs.Basic

namespace JMProofs
open JM Binary Json

def runActs : List Sym → Enc → R Enc
  | [], e => .ok e
  | a :: as, e => match encAct a e with
    | .ok e' => runActs as e'
    | .error x => .error x

theorem runActs_eq : runActs = run encAct := by
  funext acts
  induction acts with
  | nil => rfl
  | cons a as ih => funext e; simp only [runActs, run, bind, Except.bind, ih]; cases encAct a e <;> rfl

theorem runActs_snoc {acts : List Sym} {a : Sym} {e0 e e' : Enc} (hr : runActs acts e0 = .ok e) (he : encAct a e = .ok e') :
    runActs (acts ++ [a]) e0 = .ok e' := by
  rw [runActs_eq] at hr ⊢
  exact run_snoc encAct hr he

def sameButKey (a b : Enc) : Prop :=
  a.stack = b.stack ∧ a.current = b.current ∧ a.records = b.records ∧ a.out = b.out

/-- `keyOk`, `curOk`: what `_pop` asserts of the state in which the container it closes was opened — `prev_current` is
    `None`, an object or an array, and in the first case `prev_key is None` -/
def keyOk (e : Enc) : Prop := e.current = .none → e.key = .none

def curOk (e : Enc) : Prop := match e.current with
  | .none => True | .dict _ => True | .list _ => True | _ => False

structure Entry (st : ES) (acts : List Sym) (G : Sym) (rest : List Sym) (e1 : Enc) : Prop where
  -- `Behaves encAct st.ps (acts ++ G :: rest)`
  eqv : ∀ k, (k == TK.arrayEnd) = false → (k == TK.mapEnd) = false → ∀ e,
    advL encAct k st.ps e = advL encAct k (acts ++ G :: rest) e
  simp : ∀ a ∈ acts, simple a = true
  run : runActs acts st.e = .ok e1

def Exit (st' : ES) (rest : List Sym) (e3 : Enc) : Prop :=
  ∃ acts', st'.ps = acts' ++ rest ∧ (∀ a ∈ acts', simple a = true) ∧
    ∃ e2, runActs acts' st'.e = .ok e2 ∧ sameButKey e2 e3 ∧ keyOk e2

/-- the loop invariants: inside an open array, record or union wrapper (`RecSt`), map (`MapSt`: `RecSt` at the map's
    repeater).  In an array nothing is pending: `end_item` has just advanced. -/
structure ListSt (st : ES) (rest : List Sym) (I : Sym) (fr : List (Val × Val)) (L : List Val) (recs : List Val) (out : Option (List Val)) : Prop where
  ps : st.ps = .rep .arrayEnd [I, .term .itemEnd none] :: rest
  stack : st.e.stack = fr
  cur : st.e.current = .list L
  recs : st.e.records = recs
  out : st.e.out = out

def MapSt (st : ES) (rest : List Sym) (V : Sym) (fr : List (Val × Val)) (kvs : List (Val × Val)) (recs : List Val)
    (out : Option (List Val)) : Prop :=
  ∃ acts, st.ps = acts ++ .rep .mapEnd [.term .string none, .term .mapKeyMarker none, V] :: rest ∧
    (∀ a ∈ acts, simple a = true) ∧
    ∃ e2, runActs acts st.e = .ok e2 ∧ e2.stack = fr ∧ e2.current = .dict kvs ∧ e2.records = recs ∧ e2.out = out

def RecSt (st : ES) (tail : List Sym) (fr : List (Val × Val)) (kvs : List (Val × Val)) (recs : List Val)
    (out : Option (List Val)) : Prop :=
  ∃ acts, st.ps = acts ++ tail ∧ (∀ a ∈ acts, simple a = true) ∧
    ∃ e2, runActs acts st.e = .ok e2 ∧ e2.stack = fr ∧ e2.current = .dict kvs ∧ e2.records = recs ∧ e2.out = out

def Pend (st : ES) (tail : List Sym) (e : Enc) : Prop :=
  ∃ acts, st.ps = acts ++ tail ∧ (∀ a ∈ acts, simple a = true) ∧ runActs acts st.e = .ok e

theorem Pend.now (ps : List Sym) (e : Enc) : Pend ⟨ps, e⟩ ps e := ⟨[], rfl, nofun, rfl⟩

theorem Pend.act {st : ES} {a : Sym} {tail : List Sym} {e e' : Enc} (h : Pend st (a :: tail) e) (ha : simple a = true)
    (he : encAct a e = .ok e') : Pend st tail e' := by
  obtain ⟨acts, hps, hs, hr⟩ := h
  exact ⟨acts ++ [a], by simp [hps], simple_snoc hs ha, runActs_snoc hr he⟩

theorem Pend.entry {st : ES} {tail : List Sym} {G : Sym} {rest : List Sym} {e : Enc} (h : Pend st tail e)
    (hb : Behaves encAct tail (G :: rest)) : ∃ acts, Entry st acts G rest e := by
  obtain ⟨acts, hps, hs, hr⟩ := h
  exact ⟨acts, by rw [hps]; exact hb.under hs, hs, hr⟩

theorem Pend.advEnd {st : ES} {k : TK} {body rest : List Sym} {e : Enc} (h : Pend st (.rep k body :: rest) e) :
    st.advance k = .ok (.term k none, ⟨rest, e⟩) := by
  obtain ⟨acts, hps, hs, hr⟩ := h
  rw [runActs_eq] at hr
  simp only [ES.advance, hps, advance_end k hs hr]; rfl

section
variable {st : ES} {tail : List Sym} {e : Enc} {fr kvs : List (Val × Val)} {recs : List Val} {out : Option (List Val)}

theorem RecSt.pend (h : RecSt st tail fr kvs recs out) :
    ∃ e, Pend st tail e ∧ e.stack = fr ∧ e.current = .dict kvs ∧ e.records = recs ∧ e.out = out := by
  obtain ⟨acts, hps, hs, e, hr, hfr⟩ := h
  exact ⟨e, ⟨acts, hps, hs, hr⟩, hfr⟩

theorem Pend.recSt (h : Pend st tail e) (hfr : e.stack = fr ∧ e.current = .dict kvs ∧ e.records = recs ∧ e.out = out) :
    RecSt st tail fr kvs recs out := by
  obtain ⟨acts, hps, hs, hr⟩ := h
  exact ⟨acts, hps, hs, e, hr, hfr⟩

theorem mapSt_iff {rest : List Sym} {V : Sym} : MapSt st rest V fr kvs recs out ↔
    RecSt st (.rep .mapEnd [.term .string none, .term .mapKeyMarker none, V] :: rest) fr kvs recs out := .rfl

theorem ListSt.pend {rest : List Sym} {I : Sym} {L : List Val} (h : ListSt st rest I fr L recs out) :
    Pend st (.rep .arrayEnd [I, .term .itemEnd none] :: rest) st.e := ⟨[], h.ps, nofun, rfl⟩

end

theorem Entry.now (G : Sym) (rest : List Sym) (e : Enc) : Entry ⟨G :: rest, e⟩ [] G rest e :=
  ⟨Behaves.refl _, nofun, rfl⟩

theorem Entry.seq {st : ES} {acts : List Sym} {x : Sym} {prod rest : List Sym} {e1 : Enc}
    (h : Entry st acts (.seq (x :: prod)) rest e1) : Entry st acts x (prod ++ rest) e1 :=
  ⟨Behaves.trans h.eqv ((behaves_seq _ _).under h.simp), h.simp, h.run⟩

theorem Entry.act {st : ES} {acts : List Sym} {a G : Sym} {rest : List Sym} {e e' : Enc} (h : Entry st acts a (G :: rest) e)
    (ha : simple a = true) (he : encAct a e = .ok e') : Entry st (acts ++ [a]) G rest e' :=
  ⟨by simpa using h.eqv, simple_snoc h.simp ha, runActs_snoc h.run he⟩

theorem Entry.adv {st : ES} {acts : List Sym} {k : TK} {d : Option Val} {rest : List Sym} {e1 : Enc}
    (h : Entry st acts (.term k d) rest e1) (h1 : (k == TK.arrayEnd) = false := by rfl)
    (h2 : (k == TK.mapEnd) = false := by rfl) : st.advance k = .ok (.term k d, ⟨rest, e1⟩) := by
  have hr := h.run
  rw [runActs_eq] at hr
  simp only [ES.advance, advance_term k h.eqv h.simp hr h1 h2]; rfl

theorem write_keyOk {e1 e3 : Enc} {j : Val} (h : e1.writeValue j = .ok e3) (hk : keyOk e1) : keyOk e3 := by
  unfold Enc.writeValue at h
  intro hc
  split at h
  · split at h
    · split at h <;> cases h
      cases hc
    · cases h
  · cases h; cases hc
  · cases h; exact hk hc

theorem exit_now {rest : List Sym} {e1 e3 : Enc} {j : Val} (hw : e1.writeValue j = .ok e3) (hk : keyOk e1) :
    Exit ⟨rest, e3⟩ rest e3 :=
  ⟨[], rfl, nofun, e3, rfl, ⟨rfl, rfl, rfl, rfl⟩, write_keyOk hw hk⟩

theorem Exit.pend {st : ES} {rest : List Sym} {e3 : Enc} (h : Exit st rest e3) :
    ∃ e2, Pend st rest e2 ∧ sameButKey e2 e3 ∧ keyOk e2 := by
  obtain ⟨acts, hps, hs, e2, hr, hsame, hk⟩ := h
  exact ⟨e2, ⟨acts, hps, hs, hr⟩, hsame, hk⟩

theorem Pend.exit {st : ES} {rest : List Sym} {e2 e3 : Enc} (h : Pend st rest e2) (hsame : sameButKey e2 e3)
    (hk : keyOk e2) : Exit st rest e3 := by
  obtain ⟨acts, hps, hs, hr⟩ := h
  exact ⟨acts, hps, hs, e2, hr, hsame, hk⟩

theorem Exit.recSt {st : ES} {tail : List Sym} {e3 : Enc} {kvs : List (Val × Val)} (h : Exit st tail e3)
    (hc : e3.current = .dict kvs) : RecSt st tail e3.stack kvs e3.records e3.out := by
  obtain ⟨e2, hp, ⟨h1, h2, h3, h4⟩, _⟩ := h.pend
  exact hp.recSt ⟨h1, h2.trans hc, h3, h4⟩

theorem pop_eq_write {e1 e3 e : Enc} {J : Val} (hw : e1.writeValue J = .ok e3) (hk : keyOk e1) (hc : curOk e1)
    (h : sameButKey e { e1.push with current := J }) : ∃ e2, e.pop = .ok e2 ∧ sameButKey e2 e3 ∧ keyOk e2 := by
  obtain ⟨hs, hcur, hr, ho⟩ := h
  have hs : e.stack = (e1.current, e1.key) :: e1.stack := hs
  have hcur : e.current = J := hcur
  unfold Enc.pop
  rw [hs]
  unfold Enc.writeValue at hw
  unfold curOk at hc
  cases hcu : e1.current with
  | dict kv =>
    rw [hcu] at hw
    cases hkey : e1.key with
    | str s =>
      simp only [hkey] at hw
      split at hw <;> cases hw
      exact ⟨_, rfl, ⟨rfl, by simp [dictSetKey, hcur], hr, ho⟩, nofun⟩
    | _ => rw [hkey] at hw; cases hw
  | list xs =>
    rw [hcu] at hw
    cases hw
    exact ⟨_, rfl, ⟨rfl, by simp [hcur], hr, ho⟩, nofun⟩
  | none =>
    rw [hcu] at hw
    cases hw
    simp only [hk hcu]
    exact ⟨_, rfl, ⟨rfl, rfl, by simp [hr, hcur, Enc.push], ho⟩, fun _ => rfl⟩
  | _ => rw [hcu] at hc; exact hc.elim

theorem close_sound {st : ES} {a : Sym} {rest : List Sym} {e1 e3 : Enc} {kvs : List (Val × Val)}
    (hs : simple a = true) (ha : ∀ e, encAct a e = e.pop)
    (h : RecSt st (a :: rest) ((e1.current, e1.key) :: e1.stack) kvs e1.records e1.out)
    (hw : e1.writeValue (.dict kvs) = .ok e3) (hk : keyOk e1) (hc : curOk e1) : Exit st rest e3 := by
  obtain ⟨e2, hp2, hfr⟩ := h.pend
  obtain ⟨e4, hp, hsame, hk4⟩ := pop_eq_write hw hk hc (e := e2) hfr
  exact (hp2.act hs ((ha e2).trans hp)).exit hsame hk4

/-- `write_array_end` / `write_map_end` -/
theorem end_sound {st : ES} {k : TK} {body rest : List Sym} {e e1 e3 : Enc} {J : Val} (h : Pend st (.rep k body :: rest) e)
    (hfr : sameButKey e { e1.push with current := J }) (hw : e1.writeValue J = .ok e3) (hk : keyOk e1) (hc : curOk e1) :
    ∃ st', (do let (_, st) ← st.advance k; let e ← st.e.pop; pure { st with e := e }) = .ok st' ∧ Exit st' rest e3 := by
  obtain ⟨e2, hp, hsame, hk2⟩ := pop_eq_write hw hk hc hfr
  exact ⟨⟨rest, e2⟩, by simp only [h.advEnd, bind, Except.bind, hp]; rfl, (Pend.now rest e2).exit hsame hk2⟩

def Sound (wut : Bool) (env : Env) (o : WOpts) (fuel : Nat) : Prop :=
  ∀ (s : Schema) (v j : Val), Json.encode wut fuel env o s v = .ok j → KeysOk j →
  ∀ (d : Option Val) (G : Sym), Gram env s d G → nonEmptyRec s = true →
  ∀ (st : ES) (acts rest : List Sym) (e1 e3 : Enc), Entry st acts G rest e1 → restOk rest →
    e1.writeValue j = .ok e3 → keyOk e1 → curOk e1 →
    ∃ st', mEncode wut fuel env o s v st = .ok st' ∧ Exit st' rest e3

def Writes (f : ES → R ES) (G : Sym) (j : Val) : Prop :=
  ∀ (st : ES) (acts rest : List Sym) (e1 e3 : Enc), Entry st acts G rest e1 → restOk rest →
    e1.writeValue j = .ok e3 → keyOk e1 → curOk e1 → ∃ st', f st = .ok st' ∧ Exit st' rest e3

theorem leaf_sound {k : TK} (d : Option Val) (j : Val) (h1 : (k == TK.arrayEnd) = false := by rfl)
    (h2 : (k == TK.mapEnd) = false := by rfl) :
    Writes (·.writeLeaf k j) (.term k d) j := by
  intro st acts rest e1 e3 hE _ hw hk _
  exact ⟨⟨rest, e3⟩, by simp only [ES.writeLeaf, hE.adv h1 h2, bind, Except.bind, hw]; rfl, exit_now hw hk⟩

theorem utf8_sound (d : Option Val) (j : Val) : Writes (·.writeUtf8 j) (.term .string d) j := by
  intro st acts rest e1 e3 hE hr hw hk _
  obtain ⟨top, tl, rfl, htop⟩ := hr
  exact ⟨⟨_, e3⟩, by simp only [ES.writeUtf8, hE.adv, bind, Except.bind, htop, hw]; rfl, exit_now hw hk⟩

theorem key_sound {st : ES} {acts tail : List Sym} {d d' : Option Val} {e : Enc}
    (hE : Entry st acts (.term .string d) (.term .mapKeyMarker d' :: tail) e) (j : Val) :
    st.writeUtf8 j = .ok ⟨tail, { e with key := j }⟩ := by
  simp only [ES.writeUtf8, hE.adv, bind, Except.bind, Sym.isTerm, beq_self_eq_true, if_true, (Entry.now (.term .mapKeyMarker d') tail e).adv]
  rfl

theorem index_sound {st : ES} {acts rest syms : List Sym} {labels : List String} {d : Option Val} {e1 : Enc} {i : Nat}
    {sym : Sym} {l : String} (hE : Entry st acts (.seq [.term .union none, .alt syms labels d]) rest e1)
    (hsym : syms[i]? = some sym) (hl : labels[i]? = some l) (wut : Bool) :
    st.writeIndex wut i = .ok (if !(sym.isTerm .null) && wut
      then ⟨sym :: .unionEnd :: rest, { e1.objectStart with key := .str l }⟩ else ⟨sym :: rest, e1⟩) := by
  simp only [ES.writeIndex, hE.seq.adv, bind, Except.bind, List.cons_append, List.nil_append, hsym, hl]
  split <;> rfl

theorem enum_sound {syms : List String} {x : String} {i : Nat} (hi : syms[i]? = some x) (d : Option Val) :
    Writes (·.writeEnum i) (.seq [.term .enum d, .enumLabels syms]) (.str x) := by
  intro st acts rest e1 e3 hE _ hw hk _
  exact ⟨⟨rest, e3⟩, by simp only [ES.writeEnum, hE.seq.adv, bind, Except.bind, List.cons_append, List.nil_append, hi, hw]; rfl,
    exit_now hw hk⟩

section
variable {f : ES → R ES} {T : Sym} {a : Val} (h : Writes f T a) {st : ES} {rest : List Sym}
  {fr kvs : List (Val × Val)} {recs : List Val} {out : Option (List Val)}
include h

theorem member_sound {acts tail : List Sym} {e : Enc} {s : String} (hE : Entry st acts T tail e)
    (htail : restOk tail) (hkey : e.key = .str s) (hs : s.isEmpty = false) (hcur : e.current = .dict kvs)
    (hfresh : s ∉ dictKeys kvs) :
    ∃ st', f st = .ok st' ∧ RecSt st' tail e.stack (kvs ++ [(.str s, a)]) e.records e.out := by
  have hw : e.writeValue a = .ok { e with current := .dict (kvs ++ [(.str s, a)]) } := by
    simp only [Enc.writeValue, hcur, hkey, hs, Bool.false_eq_true, if_false, Dict.valDictSet_fresh kvs s a hfresh]
  obtain ⟨st1, hm, hx⟩ := h st acts tail e _ hE htail hw (by intro h; rw [hcur] at h; cases h)
    (by unfold curOk; rw [hcur]; trivial)
  exact ⟨st1, hm, hx.recSt rfl⟩

theorem item_sound {L : List Val} (hst : ListSt st rest T fr L recs out) :
    ∃ st1 st', f st = .ok st1 ∧ st1.endItem = .ok st' ∧ ListSt st' rest T fr (L ++ [a]) recs out := by
  have hw : st.e.writeValue a = .ok { st.e with current := .list (L ++ [a]) } := by unfold Enc.writeValue; rw [hst.cur]
  obtain ⟨acts, hE⟩ := hst.pend.entry (behaves_arrayRep T rest)
  obtain ⟨st1, hm, hx1⟩ := h st acts _ st.e _ hE restOk_cons hw (by intro hc; rw [hst.cur] at hc; cases hc)
    (by unfold curOk; rw [hst.cur]; trivial)
  obtain ⟨e2, hp, ⟨h1, h2, h3, h4⟩, _⟩ := hx1.pend
  obtain ⟨acts', hE2⟩ := hp.entry (.refl _)
  refine ⟨st1, ⟨_, e2⟩, hm, ?_, ⟨rfl, h1.trans hst.stack, h2, h3.trans hst.recs, h4.trans hst.out⟩⟩
  simp only [ES.endItem, hE2.adv]; rfl

theorem entry_sound {s : String} (hs : s.isEmpty = false) (hfresh : s ∉ dictKeys kvs) (hst : MapSt st rest T fr kvs recs out) :
    ∃ st1, st.writeUtf8 (.str s) = .ok st1 ∧
      ∃ st', f st1 = .ok st' ∧ MapSt st' rest T fr (kvs ++ [(.str s, a)]) recs out := by
  simp only [mapSt_iff] at hst ⊢
  obtain ⟨e2, hp, rfl, hcur, rfl, rfl⟩ := hst.pend
  obtain ⟨acts, hE⟩ := hp.entry (behaves_mapRep T rest)
  exact ⟨_, key_sound hE _, member_sound h (e := { e2 with key := .str s }) (Entry.now T _ _) restOk_cons rfl hs hcur hfresh⟩

/-- on `Entry`, not `RecSt`: before the first field the record's production is still folded -/
theorem field_sound {n : String} (hn : n.isEmpty = false) {acts tail : List Sym} {ea : Enc}
    (hE : Entry st acts (.fieldStart n) (T :: .fieldEnd :: tail) ea) (hcur : ea.current = .dict kvs)
    (hfresh : n ∉ dictKeys kvs) :
    ∃ st', f st = .ok st' ∧ RecSt st' tail ea.stack (kvs ++ [(.str n, a)]) ea.records ea.out := by
  obtain ⟨st1, hm, hst1⟩ := member_sound h (hE.act rfl rfl) restOk_cons rfl hn hcur hfresh
  obtain ⟨e2, hp, hfr⟩ := hst1.pend
  exact ⟨st1, hm, (hp.act rfl rfl).recSt hfr⟩

end

private theorem fresh_of_nodup {kvs b : List (Val × Val)} {s : String} {a : Val}
    (h : (dictKeys (kvs ++ (.str s, a) :: b)).Nodup) : s ∉ dictKeys kvs := by
  intro hin
  rw [Dict.dictKeys_append] at h
  exact (List.nodup_append.mp h).2.2 s hin s (by simp [dictKeys]) rfl

theorem items_sound (wut : Bool) (env : Env) (o : WOpts) (fuel : Nat) (IH : Sound wut env o fuel)
    (items : Schema) (I : Sym) (hG : Gram env items none I) (hne : nonEmptyRec items = true) (rest : List Sym)
    (fr : List (Val × Val)) (recs : List Val) (out : Option (List Val)) :
    ∀ (xs js : List Val), encItemsWith (Json.encode wut fuel env o items) xs = .ok js → (∀ x ∈ js, KeysOk x) →
    ∀ (st : ES) (L : List Val), ListSt st rest I fr L recs out →
    ∃ st', mItemsWith (mEncode wut fuel env o items) xs st = .ok st' ∧ ListSt st' rest I fr (L ++ js) recs out := by
  intro xs
  induction xs with
  | nil => intro js h _ st L hst; cases h; exact ⟨st, rfl, by simpa using hst⟩
  | cons x xs ih =>
    intro js h hko st L hst
    simp only [encItemsWith, R.bind_ok_iff, R.pure_ok_iff] at h
    obtain ⟨a, hx, b, hxs, rfl⟩ := h
    obtain ⟨st1, st2, hm, hend, hst2⟩ := item_sound (IH items x a hx (hko a (by simp)) none I hG hne) hst
    obtain ⟨st3, hm3, hst3⟩ := ih b hxs (fun y hy => hko y (by simp [hy])) st2 _ hst2
    exact ⟨st3, by simp only [mItemsWith, bind, Except.bind, hm, hend]; exact hm3, by simpa using hst3⟩

theorem entries_sound (wut : Bool) (env : Env) (o : WOpts) (fuel : Nat) (IH : Sound wut env o fuel)
    (values : Schema) (V : Sym) (hG : Gram env values none V) (hne : nonEmptyRec values = true) (rest : List Sym)
    (fr : List (Val × Val)) (recs : List Val) (out : Option (List Val)) :
    ∀ (kv jkv : List (Val × Val)), encEntriesWith (Json.encode wut fuel env o values) kv = .ok jkv →
    ∀ (st : ES) (kvs : List (Val × Val)), (dictKeys (kvs ++ jkv)).Nodup → (∀ p ∈ jkv, KeysOk p.2) →
      MapSt st rest V fr kvs recs out →
    ∃ st', mEntriesWith (mEncode wut fuel env o values) kv st = .ok st' ∧ MapSt st' rest V fr (kvs ++ jkv) recs out := by
  intro kv
  induction kv with
  | nil => intro jkv h st kvs _ _ hst; cases h; exact ⟨st, rfl, by simpa using hst⟩
  | cons p kv ih =>
    intro jkv h st kvs hnd hko hst
    obtain ⟨k, x⟩ := p
    cases k <;> simp only [encEntriesWith, R.throw_ne_ok] at h
    rename_i s
    split at h
    · simp [R.throw_ne_ok, R.bind_ok_iff] at h
    rename_i hse
    simp only [R.bind_ok_iff, R.pure_ok_iff] at h
    obtain ⟨a, hx, b, hxs, rfl⟩ := h
    obtain ⟨st1, hkey, st2, hm, hst2⟩ := entry_sound (IH values x a hx (hko (.str s, a) (by simp)) none V hG hne)
      (by simpa using hse) (fresh_of_nodup hnd) hst
    obtain ⟨st3, hm3, hst3⟩ := ih b hxs st2 _ (by simpa using hnd) (fun q hq => hko q (by simp [hq])) hst2
    exact ⟨st3, by simp only [mEntriesWith, bind, Except.bind, hkey, hm]; exact hm3, by simpa using hst3⟩

/-- the hypothesis is the first clause of `KeysOk.dict` at the entry `(.str n, _)` -/
theorem key_nonempty {n : String} (h : ∃ s, Val.str n = Val.str s ∧ s ≠ "") : n.isEmpty = false := by
  obtain ⟨s, hs, hne⟩ := h
  cases hs
  simpa [String.isEmpty_iff] using hne

theorem fields_sound (wut : Bool) (env : Env) (o : WOpts) (fuel : Nat) (IH : Sound wut env o fuel)
    (kv : List (Val × Val)) (rest : List Sym) (fr : List (Val × Val)) (recs : List Val) (out : Option (List Val)) :
    ∀ (fields : List Field) (body : List Sym), GramFields env fields body → nonEmptyRecF fields = true →
    ∀ (jkv : List (Val × Val)), encFieldsWith (Json.encode wut fuel env o) fields kv = .ok jkv →
    ∀ (st : ES) (kvs : List (Val × Val)), (dictKeys (kvs ++ jkv)).Nodup → (∀ p ∈ jkv, ∃ s, p.1 = Val.str s ∧ s ≠ "") →
      (∀ p ∈ jkv, KeysOk p.2) → RecSt st (body ++ rest) fr kvs recs out →
    ∃ st', mFieldsWith (mEncode wut fuel env o) fields kv st = .ok st' ∧
      RecSt st' (.recordEnd :: rest) fr (kvs ++ jkv) recs out := by
  intro fields
  induction fields with
  | nil => intro body hg _ jkv h st kvs _ _ _ hst; cases hg; cases h; exact ⟨st, rfl, by simpa using hst⟩
  | cons fld fs ih =>
    intro body hg hne jkv h st kvs hnd hks hko hst
    cases hg with
    | cons _ _ T more hT hmore =>
    simp only [nonEmptyRecF_cons, Bool.and_eq_true] at hne
    simp only [encFieldsWith, R.bind_ok_iff, R.pure_ok_iff] at h
    obtain ⟨dv, hco, a, hx, b, hxs, rfl⟩ := h
    obtain ⟨ea, hp, rfl, hcur, rfl, rfl⟩ := hst.pend
    obtain ⟨_, hE⟩ := hp.entry (.refl _)
    obtain ⟨st1, hm, hst1⟩ := field_sound (IH fld.type dv a hx (hko (.str fld.name, a) (by simp)) _ T hT hne.1)
      (key_nonempty (hks (.str fld.name, a) (by simp))) hE hcur (fresh_of_nodup hnd)
    obtain ⟨st3, hm3, hst3⟩ := ih more hmore hne.2 b hxs st1 _ (by simpa using hnd) (fun q hq => hks q (by simp [hq]))
      (fun q hq => hko q (by simp [hq])) hst1
    exact ⟨st3, by simp only [mFieldsWith, bind, Except.bind, hco, hm]; exact hm3, by simpa using hst3⟩

section
variable {wut : Bool} {env : Env} {o : WOpts} {fuel : Nat} (IH : Sound wut env o fuel) {v j : Val} (d : Option Val)
include IH

theorem array_sound {items : Schema} {I : Sym} (hG : Gram env items none I) (hne : nonEmptyRec items = true)
    (hj : Json.encode wut (fuel + 1) env o (.array items) v = .ok j) (hko : KeysOk j) :
    Writes (mEncode wut (fuel + 1) env o (.array items) v)
      (.seq [.term .arrayStart d, .rep .arrayEnd [I, .term .itemEnd none]]) j := by
  intro st acts rest e1 e3 hE _ hw hk hc
  -- `Json.encode` takes lists and tuples, `mEncode` whatever `iterItems?` accepts
  obtain ⟨xs, js, hit, hjs, rfl⟩ : ∃ xs js, iterItems? v = some xs ∧
      encItemsWith (Json.encode wut fuel env o items) xs = .ok js ∧ j = .list js := by
    simp only [Json.encode] at hj
    split at hj <;> simp only [R.throw_ne_ok, R.bind_ok_iff, R.pure_ok_iff] at hj <;>
      obtain ⟨js, hjs, rfl⟩ := hj <;> exact ⟨_, js, rfl, hjs, rfl⟩
  obtain ⟨st1, hstart, hst1⟩ : ∃ st1, st.arrayStart = .ok st1 ∧
      ListSt st1 rest I ((e1.current, e1.key) :: e1.stack) [] e1.records e1.out :=
    ⟨⟨_, { e1.push with current := .list [] }⟩, by simp only [ES.arrayStart, hE.seq.adv, bind, Except.bind]; rfl,
      rfl, rfl, rfl, rfl, rfl⟩
  obtain ⟨st2, hm, hst2⟩ := items_sound wut env o fuel IH items I hG hne rest _ _ _ xs js hjs hko.of_list st1 [] hst1
  obtain ⟨st3, hend, hx⟩ := end_sound (e1 := e1) hst2.pend ⟨hst2.stack, hst2.cur, hst2.recs, hst2.out⟩ hw hk hc
  exact ⟨st3, by simp only [mEncode, hit, hstart, bind, Except.bind, hm]; exact hend, hx⟩

theorem map_sound {values : Schema} {V : Sym} (hG : Gram env values none V) (hne : nonEmptyRec values = true)
    (hj : Json.encode wut (fuel + 1) env o (.map values) v = .ok j) (hko : KeysOk j) :
    Writes (mEncode wut (fuel + 1) env o (.map values) v)
      (.seq [.term .mapStart d, .rep .mapEnd [.term .string none, .term .mapKeyMarker none, V]]) j := by
  intro st acts rest e1 e3 hE _ hw hk hc
  simp only [Json.encode] at hj
  split at hj <;> simp only [R.throw_ne_ok, R.bind_ok_iff, R.pure_ok_iff] at hj
  obtain ⟨jkv, hjs, rfl⟩ := hj
  obtain ⟨st1, hstart, hst1⟩ : ∃ st1, st.mapStart = .ok st1 ∧
      MapSt st1 rest V ((e1.current, e1.key) :: e1.stack) [] e1.records e1.out :=
    ⟨⟨_, e1.objectStart⟩, by simp only [ES.mapStart, hE.seq.adv, bind, Except.bind]; rfl,
      mapSt_iff.mpr ((Pend.now _ _).recSt ⟨rfl, rfl, rfl, rfl⟩)⟩
  obtain ⟨st2, hm, hst2⟩ := entries_sound wut env o fuel IH values V hG hne rest _ _ _ _ jkv hjs
    st1 [] hko.of_dict.2.1 hko.of_dict.2.2 hst1
  obtain ⟨e2, hp2, hfr⟩ := (mapSt_iff.mp hst2).pend
  obtain ⟨st3, hend, hx⟩ := end_sound (e1 := e1) hp2 hfr hw hk hc
  exact ⟨st3, by simp only [mEncode, hstart, bind, Except.bind, hm]; exact hend, hx⟩

theorem union_sound (henv : EnvOk env) {bs : List Schema} {syms : List Sym} (hgl : GramList env bs syms)
    (hne : nonEmptyRecL bs = true) (hj : Json.encode wut (fuel + 1) env o (.union bs) v = .ok j) (hko : KeysOk j) :
    Writes (mEncode wut (fuel + 1) env o (.union bs) v) (.seq [.term .union none, .alt syms (bs.map label) d]) j := by
  intro st acts rest e1 e3 hE hr hw hk hc
  simp only [Json.encode, R.bind_ok_iff] at hj
  obtain ⟨⟨i, v'⟩, hch, hj⟩ := hj
  cases hb : bs[i]? with
  | none => simp [hb, R.throw_ne_ok] at hj
  | some b =>
  simp only [hb, R.bind_ok_iff] at hj
  obtain ⟨jb, hjb, hj⟩ := hj
  obtain ⟨sym, hsym, hG⟩ := gramList_get hgl hb
  have hb' := IH b v' jb hjb
  have hnb := nonEmptyRecL_get hne hb
  -- `write_index` wraps exactly when `Json.encode` does
  have hwrap : (!sym.isTerm .null && wut) = !(isNullBranch env b || !wut) := by
    rw [gram_null henv hG]; cases isNullBranch env b <;> cases wut <;> rfl
  have hidx := index_sound hE hsym (l := label b) (by rw [List.getElem?_map, hb]; rfl) wut
  simp only [mEncode, hch, hb, bind, Except.bind, hidx, hwrap]
  cases hcase : (isNullBranch env b || !wut) <;> simp only [hcase, Bool.false_eq_true, if_false, if_true] at hj <;> cases hj
  · -- {label: value}, closed by the pending UnionEnd
    simp only [Bool.not_false, if_true]
    obtain ⟨st1, hm, hst1⟩ := member_sound (hb' (hko.of_dict.2.2 (.str (label b), jb) (by simp)) none sym hG hnb)
      (Entry.now sym (.unionEnd :: rest) { e1.objectStart with key := .str (label b) })
      restOk_cons rfl (key_nonempty (hko.of_dict.1 (.str (label b), jb) (by simp))) rfl (by simp [dictKeys])
    exact ⟨st1, hm, close_sound rfl (fun _ => rfl) hst1 hw hk hc⟩
  · simp only [Bool.not_true, Bool.false_eq_true, if_false]
    exact hb' hko none sym hG hnb _ _ rest e1 e3 (Entry.now sym rest e1) hr hw hk hc

theorem record_sound {n : String} {fields : List Field} {al : List String} {body : List Sym}
    (hg : GramFields env fields body) (hne : (!fields.isEmpty && nonEmptyRecF fields) = true)
    (hj : Json.encode wut (fuel + 1) env o (.record n fields al) v = .ok j) (hko : KeysOk j) :
    Writes (mEncode wut (fuel + 1) env o (.record n fields al) v) (.seq (.recordStart d :: body)) j := by
  intro st acts rest e1 e3 hE _ hw hk hc
  simp only [Json.encode] at hj
  split at hj <;> simp only [R.throw_ne_ok, R.bind_ok_iff, R.pure_ok_iff] at hj
  obtain ⟨jkv, hjs, rfl⟩ := hj
  obtain ⟨hks, hnd, hkos⟩ := hko.of_dict
  cases hg with
  | nil => simp at hne
  | cons fld fs T more hT hmore =>
  simp only [List.isEmpty_cons, Bool.not_false, Bool.true_and, nonEmptyRecF_cons, Bool.and_eq_true] at hne
  simp only [encFieldsWith, R.bind_ok_iff, R.pure_ok_iff] at hjs
  obtain ⟨dv, hco, a, hx, b, hxs, rfl⟩ := hjs
  obtain ⟨st1, hm, hst1⟩ := field_sound (IH fld.type dv a hx (hkos (.str fld.name, a) (by simp)) _ T hT hne.1)
    (key_nonempty (hks (.str fld.name, a) (by simp))) (hE.seq.act rfl rfl) rfl (by simp [dictKeys])
  obtain ⟨st3, hm3, hst3⟩ := fields_sound wut env o fuel IH _ rest _ _ _ fs more hmore hne.2 b hxs st1 _ hnd
    (fun q hq => hks q (by simp [hq])) (fun q hq => hkos q (by simp [hq])) hst1
  exact ⟨st3, by simp only [mEncode, mFieldsWith, bind, Except.bind, hco, hm]; exact hm3,
    close_sound rfl (fun _ => rfl) hst3 hw hk hc⟩

end

/-- `c15_machine_value` is this statement, spelled out -/
theorem sound_all (wut : Bool) (env : Env) (henv : EnvOk env) (o : WOpts) : ∀ fuel, Sound wut env o fuel := by
  intro fuel
  induction fuel with
  | zero => intro s v j hj; cases hj
  | succ fuel IH =>
    intro s v j hj hko d G hG hne
    change Writes (mEncode wut (fuel + 1) env o s v) G j
    cases hG with
    | null df lt =>
      cases lt <;> simp only [Json.encode, R.throw_ne_ok] at hj
      simp only [mEncode, hj, bind, Except.bind]
      exact leaf_sound _ _
    | prim p df lt _ hp =>
      cases lt <;> simp only [Json.encode, R.throw_ne_ok] at hj
      simp only [mEncode, hj, bind, Except.bind]
      split
      · rename_i hs
        cases (by simpa using hs : p = .string)
        exact utf8_sound _ _
      · exact leaf_sound _ _ (by cases p <;> rfl) (by cases p <;> rfl)
    | fixed n sz lt al =>
      cases lt <;> simp only [Json.encode, R.throw_ne_ok] at hj
      split at hj <;> simp only [R.throw_ne_ok, R.pure_ok_iff] at hj
      subst hj
      exact leaf_sound _ _
    | enum n syms dflt al =>
      simp only [Json.encode] at hj
      split at hj
      · split at hj <;> simp only [R.throw_ne_ok, R.pure_ok_iff] at hj
        subst hj
        rename_i hc
        obtain ⟨i, hi, hget⟩ := contains_indexOf hc
        simp only [mEncode, hi]
        exact enum_sound hget _
      · simp only [R.throw_ne_ok] at hj
    | array items _ I hI => exact array_sound IH _ hI (by simpa [nonEmptyRec] using hne) hj hko
    | map values _ V hV => exact map_sound IH _ hV (by simpa [nonEmptyRec] using hne) hj hko
    | union bs _ syms hgl => exact union_sound IH _ henv hgl (by simpa [nonEmptyRec] using hne) hj hko
    | record n fields al _ body hgf => exact record_sound IH _ hgf (by simpa [nonEmptyRec] using hne) hj hko
    | ref n s' _ _ hget hg' =>
      simp only [Json.encode, hget] at hj
      simp only [mEncode, hget]
      exact IH s' v j hj hko d G hg' (henv n s' hget).2

theorem flush_acts {acts : List Sym} (hs : ∀ a ∈ acts, simple a = true) (ps : List Sym) (e : Enc) :
    flush (acts ++ ps) e = runActs acts e >>= flush ps := by
  induction acts generalizing e with
  | nil => rfl
  | cons a as ih =>
    have : flush (a :: (as ++ ps)) e = encAct a e >>= flush (as ++ ps) := by
      have ha := hs a (by simp)
      cases a <;> first | rfl | cases ha
    simp only [List.cons_append, this, runActs]
    cases encAct a e with
    | error x => rfl
    | ok e' => exact ih (fun b hb => hs b (by simp [hb])) e'

theorem Pend.flush {st : ES} {tail : List Sym} {e : Enc} (h : Pend st tail e) : flush st.ps st.e = flush tail e := by
  obtain ⟨acts, hps, hs, hr⟩ := h
  rw [hps, flush_acts hs, hr]; rfl

section
variable {wut : Bool} {env : Env} (henv : EnvOk env) {o : WOpts} {fuel : Nat} {s : Schema} {G : Sym}
  (hG : Gram env s none G) (hne : nonEmptyRec s = true)
include henv hG hne

/-- between two data nothing is open: the encoder is `{ records := recs }` once the pending actions are executed -/
theorem top_sound {v j : Val} (hj : Json.encode wut fuel env o s v = .ok j) (hko : KeysOk j) {st : ES} {tail : List Sym}
    {recs : List Val} (htail : Behaves encAct tail [G, .root G]) (hst : Pend st tail { records := recs }) :
    ∃ st', mEncode wut fuel env o s v st = .ok st' ∧ Pend st' [.root G] { records := recs ++ [j] } := by
  obtain ⟨acts, hE⟩ := hst.entry htail
  obtain ⟨st1, hm, hx⟩ := sound_all wut env henv o fuel s v j hj hko none G hG hne st acts _ _ { records := recs ++ [j] }
    hE restOk_cons rfl (fun _ => rfl) trivial
  -- the pending actions lead to `e2`, equal to `{ records := recs ++ [j] }` up to the key; its `current` is `None`, so by
  -- `keyOk` the key is `None` as well: `e2` is that state
  obtain ⟨⟨_, _, _, _, _⟩, hp, ⟨h1, h2, h3, h4⟩, hk⟩ := hx.pend
  cases h1; cases h2; cases h3; cases h4; cases hk rfl
  exact ⟨st1, hm, hp⟩

theorem records_sound {vs js : List Val} (hall : Pairwise2 (fun v j => Json.encode wut fuel env o s v = .ok j ∧ KeysOk j) vs js) :
    ∀ {st : ES} {recs : List Val}, Pend st [.root G] { records := recs } →
    ∃ st', mEncodeAllFrom wut fuel env o s vs st = .ok st' ∧ Pend st' [.root G] { records := recs ++ js } := by
  induction hall with
  | nil => intro st recs hst; exact ⟨st, rfl, by simpa using hst⟩
  | cons hvj _ ih =>
    intro st recs hst
    obtain ⟨st1, hm, hst1⟩ := top_sound henv hG hne hvj.1 hvj.2 (behaves_root henv hG hne) hst
    obtain ⟨st3, hm3, hst3⟩ := ih hst1
    exact ⟨st3, by simp only [mEncodeAllFrom, bind, Except.bind, hm]; exact hm3, by simpa using hst3⟩

theorem encodeAll_sound (hinit : initialStack fuel env s = .ok [G, .root G]) {v j : Val} {vs js : List Val}
    (hall : Pairwise2 (fun v j => Json.encode wut fuel env o s v = .ok j ∧ KeysOk j) (v :: vs) (j :: js)) :
    encodeAll wut fuel env o s (v :: vs) = .ok (j :: js) := by
  cases hall with
  | cons hvj hrest =>
  obtain ⟨st1, hm1, hst1⟩ := top_sound henv hG hne hvj.1 hvj.2 (.refl _) (Pend.now [G, .root G] {})
  obtain ⟨st2, hm2, hst2⟩ := records_sound henv hG hne hrest hst1
  -- `flush` executes what is pending, then `Root` writes the buffer: `out := records`
  simp only [encodeAll, hinit, mEncodeAllFrom, R.ok_bind, hm1, hm2, hst2.flush]
  rfl

end

end JMProofs
