/-
  Proofs/Dict.lean — Python `d[k] = v` (`Binary.valDictSet`) and `del d[k]` on an insertion-ordered dict, against `d.get(k)`
  and `d.keys()` (Proofs/DictGet.lean) and in the same way: `valDictSet_cons` looks at the key through `Val.strEq`, and what
  follows goes through it.
-/
import Model.Binary
import Proofs.DictGet

namespace Dict
open Binary

theorem valDictSet_cons (e : Val × Val) (rest : List (Val × Val)) (k : String) (x : Val) :
    valDictSet (e :: rest) k x = if e.1.strEq k then (e.1, x) :: rest else e :: valDictSet rest k x := by
  obtain ⟨k', v'⟩ := e
  cases k' <;> first | rfl | (simp only [valDictSet, Val.strEq]; split <;> rfl)

theorem valDictSet_fresh (kv : List (Val × Val)) (k : String) (x : Val) (h : k ∉ dictKeys kv) :
    valDictSet kv k x = kv ++ [(.str k, x)] := by
  induction kv with
  | nil => rfl
  | cons e rest ih =>
    rw [mem_dictKeys_cons, not_or, ← strEq_iff, Bool.not_eq_true] at h
    rw [valDictSet_cons, h.1, ih h.2]; rfl

theorem mem_valDictSet {kv : List (Val × Val)} {k : String} {x : Val} {e : Val × Val} (h : e ∈ valDictSet kv k x) :
    e ∈ kv ∨ e = (.str k, x) := by
  induction kv with
  | nil => exact .inr (by simpa [valDictSet] using h)
  | cons a rest ih =>
    rw [valDictSet_cons] at h
    split at h <;> rename_i hk
    · rw [strEq_iff.mp hk] at h
      rcases List.mem_cons.mp h with rfl | h
      · exact .inr rfl
      · exact .inl (List.mem_cons_of_mem _ h)
    · rcases List.mem_cons.mp h with rfl | h
      · exact .inl List.mem_cons_self
      · exact (ih h).imp (List.mem_cons_of_mem _) id

theorem get_set_same (kv : List (Val × Val)) (k : String) (x : Val) : dictGetV (valDictSet kv k x) k = some x := by
  induction kv with
  | nil => simp [valDictSet, dictGetV]
  | cons e rest ih =>
    rw [valDictSet_cons]
    split <;> rename_i hk <;> simp only [dictGetV_cons, hk, ↓reduceIte, ih, Bool.false_eq_true]

theorem get_set_other (kv : List (Val × Val)) (k k' : String) (x : Val) (hne : k' ≠ k) :
    dictGetV (valDictSet kv k x) k' = dictGetV kv k' := by
  induction kv with
  | nil => simp [valDictSet, dictGetV, Ne.symm hne]
  | cons e rest ih =>
    rw [valDictSet_cons]
    split <;> rename_i hk
    · have : e.1.strEq k' = false := by rw [strEq_iff.mp hk, strEq_str]; exact beq_false_of_ne hne.symm
      simp only [dictGetV_cons, this, Bool.false_eq_true, ↓reduceIte]
    · simp only [dictGetV_cons, ih]

theorem valDictSet_idem (kv : List (Val × Val)) (k : String) (a b : Val) :
    valDictSet (valDictSet kv k a) k b = valDictSet kv k b := by
  induction kv with
  | nil => simp [valDictSet]
  | cons e rest ih =>
    rw [valDictSet_cons, valDictSet_cons]
    split <;> rename_i hk
    · rw [valDictSet_cons, if_pos hk]
    · rw [valDictSet_cons, if_neg hk, ih]

theorem valDictSet_present {kv : List (Val × Val)} {k : String} (x : Val) (h : k ∈ dictKeys kv) :
    dictKeys (valDictSet kv k x) = dictKeys kv ∧ (valDictSet kv k x).length = kv.length := by
  induction kv with
  | nil => cases h
  | cons e rest ih =>
    rw [valDictSet_cons]
    split <;> rename_i hk
    · obtain ⟨k', v'⟩ := e
      cases strEq_iff.1 hk
      exact ⟨rfl, rfl⟩
    · rw [mem_dictKeys_cons, ← strEq_iff] at h
      obtain ⟨h1, h2⟩ := ih (h.resolve_left hk)
      refine ⟨?_, congrArg (· + 1) h2⟩
      -- `dictKeys (e :: a)` depends on `a` only through `dictKeys a`
      rw [← List.singleton_append, dictKeys_append, h1, ← dictKeys_append]; rfl

theorem mem_dictKeys_set {kv : List (Val × Val)} {k n : String} {x : Val} :
    n ∈ dictKeys (valDictSet kv k x) ↔ n ∈ dictKeys kv ∨ n = k := by
  by_cases hk : k ∈ dictKeys kv
  · rw [(valDictSet_present x hk).1]
    exact ⟨.inl, fun h => h.elim id (· ▸ hk)⟩
  · rw [valDictSet_fresh kv k x hk, dictKeys_append]
    exact List.mem_append.trans (or_congr_right List.mem_singleton)

/-- `del d[k]` (a filter in the model) when `k` is the first key -/
theorem filter_first (k : String) (x : Val) (M : List (Val × Val)) (hk : k ∉ dictKeys M) :
    ((Val.str k, x) :: M).filter (fun e => !(e.1.strEq k)) = M := by
  rw [List.filter_cons_of_neg (by simp [strEq_str]), List.filter_eq_self]
  intro (pk, pv) hp
  cases h : pk.strEq k with
  | false => rfl
  | true => rw [strEq_iff.1 h] at hp; exact absurd (mem_dictKeys_of_mem hp) hk

/-- the step of a loop that fills a dict key by key: while the keys set so far and those still to come are distinct,
    `d[k] = x` appends, and the distinctness carries over -/
theorem set_next {acc : List (Val × Val)} {k : String} {ks : List String} (x : Val) (h : (dictKeys acc ++ k :: ks).Nodup) :
    valDictSet acc k x = acc ++ [(.str k, x)] ∧ (dictKeys (acc ++ [(.str k, x)]) ++ ks).Nodup := by
  rw [List.append_cons] at h
  refine ⟨valDictSet_fresh _ _ _ fun hm => ?_, by rw [dictKeys_append]; exact h⟩
  obtain ⟨-, -, hdisj⟩ := List.nodup_append.mp (List.nodup_append.mp h).1
  exact hdisj k hm k (List.mem_singleton_self k) rfl

end Dict
