/-
  Proofs/Parse.lean — `_parse_schema` read backwards: what a successful call of `Parse.parse`, of each parser it
  dispatches to (`route_*`) and of each loop must have done, and what follows for the parser state (`parse_inv`).
-/
import Model.Parse
import Spec.Pcf
import Proofs.R
import Proofs.Schema

namespace RejectProofs
open Parse

/-- the parser state in which the fields of a record are parsed: the record's own name is
    registered (so that it can refer to itself) -/
def recordSt (kv : List (Val × Val)) (full : String) (st : St) : St :=
  { names := st.names ++ [full], env := st.env.set full (.record full [] (aliasesOf kv)) }

end RejectProofs

namespace Parse
open R
open RejectProofs (recordSt)

variable {p : Val → St → R (Schema × St)} {pf : String → List Val → St → R (List Field × St)}
  {kv : List (Val × Val)} {name ns : String} {st st' : St} {dflt : Option Val} {ign : Bool} {lt : Option LogT} {s : Schema}
  {fuel : Nat} {raw : Val}

theorem getKey_ok {k : String} {v : Val} (h : getKey kv k = .ok v) : dictGetV kv k = some v := by
  unfold getKey at h
  split at h <;> cases h
  assumption

theorem dictType_ok {t : String} (h : dictType kv = .ok t) : dictGetV kv "type" = some (.str t) := by
  unfold dictType at h
  split at h <;> cases h
  assumption

theorem fieldHeader_ok {al : List String} {d : Option Val} {ty : Val} (h : fieldHeader kv = .ok (al, d, name, ty)) :
    dictGetV kv "name" = some (.str name) ∧ dictGetV kv "type" = some ty ∧ d = dictGetV kv "default" := by
  have key : ∀ al', fieldHeader.fieldHeader2 kv al' = .ok (al, d, name, ty) →
      dictGetV kv "name" = some (.str name) ∧ dictGetV kv "type" = some ty ∧ d = dictGetV kv "default" := by
    intro al' h'
    unfold fieldHeader.fieldHeader2 at h'
    split at h' <;> simp only [Except.ok.injEq, Prod.mk.injEq, reduceCtorEq] at h'
    rename_i n ty' hn ht
    obtain ⟨_, rfl, rfl, rfl⟩ := h'
    exact ⟨hn, ht, rfl⟩
  unfold fieldHeader at h
  split at h
  · exact key _ h
  · cases h
  · exact key _ h

theorem parseName_ok (h : parseName name ns st dflt ign = .ok (s, st')) :
    st' = st ∧ ((∃ p, Prim.ofName? name = some p ∧ s = .prim p false none) ∨
      (Prim.ofName? name = none ∧ s = .ref (Spec.refName name ns) ∧ (st.env.get? (Spec.refName name ns)).isSome = true)) := by
  unfold parseName at h
  split at h
  · simp only [bind_ok_iff, pure_ok_iff, Prod.mk.injEq] at h
    obtain ⟨_, _, rfl, rfl⟩ := h
    exact ⟨rfl, .inl ⟨_, ‹_›, rfl⟩⟩
  · change (if (st.env.get? (Spec.refName name ns)).isNone then _ else _) = _ at h
    simp only [ite_error_ok_iff, Except.ok.injEq, Prod.mk.injEq, Bool.not_eq_true, Option.isNone_eq_false_iff] at h
    obtain ⟨hn, rfl, rfl⟩ := h
    exact ⟨rfl, .inr ⟨‹_›, rfl, hn⟩⟩

theorem parsePrimDict_ok {ty : String} (h : parsePrimDict ty st dflt ign lt = .ok (s, st')) :
    st' = st ∧ ∃ p, Prim.ofName? ty = some p ∧ s = .prim p true lt := by
  unfold parsePrimDict at h
  split at h
  · simp only [bind_ok_iff, pure_ok_iff, Prod.mk.injEq] at h
    obtain ⟨_, _, rfl, rfl⟩ := h
    exact ⟨rfl, _, ‹_›, rfl⟩
  · split at h <;> cases h

theorem parseArray_ok (h : parseArray p kv st dflt ign = .ok (s, st')) :
    ∃ items s1, getKey kv "items" = .ok items ∧ p items st = .ok (s1, st') ∧ s = .array s1 := by
  simp only [parseArray, bind_ok_iff, pure_ok_iff, Prod.mk.injEq] at h
  obtain ⟨items, hi, ⟨s1, st1⟩, h1, _, _, rfl, rfl⟩ := h
  exact ⟨items, s1, hi, h1, rfl⟩

theorem parseMap_ok (h : parseMap p kv st dflt ign = .ok (s, st')) :
    ∃ values s1, getKey kv "values" = .ok values ∧ p values st = .ok (s1, st') ∧ s = .map s1 := by
  simp only [parseMap, bind_ok_iff, pure_ok_iff, Prod.mk.injEq] at h
  obtain ⟨values, hi, ⟨s1, st1⟩, h1, _, _, rfl, rfl⟩ := h
  exact ⟨values, s1, hi, h1, rfl⟩

theorem parseEnum_ok (h : parseEnum kv ns st dflt ign = .ok (s, st')) :
    ∃ ns' full syms edef, schemaName kv ns = .ok (ns', full) ∧ st.names.contains full = false ∧
      enumSymbols kv = .ok (syms, edef) ∧ s = .enum full syms edef (aliasesOf kv) ∧
      st' = { names := st.names ++ [full], env := st.env.set full s } := by
  simp only [parseEnum, bind_ok_iff, ite_error_ok_iff, pure_ok_iff, Prod.mk.injEq, Prod.exists, Bool.not_eq_true] at h
  obtain ⟨ns', full, hn, hc, syms, edef, hs, _, _, rfl, rfl⟩ := h
  exact ⟨ns', full, syms, edef, hn, hc, hs, rfl, rfl⟩

theorem parseFixed_ok (h : parseFixed kv ns st dflt ign lt = .ok (s, st')) :
    ∃ ns' full size, schemaName kv ns = .ok (ns', full) ∧ st.names.contains full = false ∧
      fixedSize kv = .ok size ∧ s = .fixed full size lt (aliasesOf kv) ∧
      st' = { names := st.names ++ [full], env := st.env.set full s } := by
  simp only [parseFixed, bind_ok_iff, ite_error_ok_iff, pure_ok_iff, Prod.mk.injEq, Prod.exists, Bool.not_eq_true] at h
  obtain ⟨ns', full, hn, hc, _, _, size, hz, rfl, rfl⟩ := h
  exact ⟨ns', full, size, hn, hc, hz, rfl, rfl⟩

theorem parseRecord_ok (h : parseRecord pf kv ns st dflt ign = .ok (s, st')) :
    ∃ ns' full fs st2, schemaName kv ns = .ok (ns', full) ∧ st.names.contains full = false ∧
      pf ns' (dictListOr kv "fields") (recordSt kv full st) = .ok (fs, st2) ∧ s = .record full fs (aliasesOf kv) ∧
      st' = { st2 with env := st2.env.set full s } := by
  simp only [parseRecord, bind_ok_iff, ite_error_ok_iff, pure_ok_iff, Prod.mk.injEq, Prod.exists, Bool.not_eq_true] at h
  obtain ⟨ns', full, hn, hc, _, _, fs, st2, hf, rfl, rfl⟩ := h
  exact ⟨ns', full, fs, st2, hn, hc, hf, rfl, rfl⟩

theorem route_array (hty : dictType kv = .ok "array") (hl : parseLogical kv false = .ok lt) :
    parse (fuel+1) (.dict kv) ns st dflt ign = parseArray (fun x st => parse fuel x ns st none ign) kv st dflt ign := by
  rw [parse, hty, ok_bind, show ("array" == "fixed") = false by decide, hl]; rfl

theorem route_map (hty : dictType kv = .ok "map") (hl : parseLogical kv false = .ok lt) :
    parse (fuel+1) (.dict kv) ns st dflt ign = parseMap (fun x st => parse fuel x ns st none ign) kv st dflt ign := by
  rw [parse, hty, ok_bind, show ("map" == "fixed") = false by decide, hl]; rfl

theorem route_enum (hty : dictType kv = .ok "enum") (hl : parseLogical kv false = .ok lt) :
    parse (fuel+1) (.dict kv) ns st dflt ign = parseEnum kv ns st dflt ign := by
  rw [parse, hty, ok_bind, show ("enum" == "fixed") = false by decide, hl]; rfl

theorem route_fixed (hty : dictType kv = .ok "fixed") (hl : parseLogical kv true = .ok lt) :
    parse (fuel+1) (.dict kv) ns st dflt ign = parseFixed kv ns st dflt ign lt := by
  rw [parse, hty, ok_bind, show ("fixed" == "fixed") = true by decide, hl]; rfl

theorem route_record (hty : dictType kv = .ok "record") (hl : parseLogical kv false = .ok lt) :
    parse (fuel+1) (.dict kv) ns st dflt ign =
      parseRecord (fun ns' fs st => parseFieldsWith (fun ty st d => parse fuel ty ns' st d ign) fs st) kv ns st dflt ign := by
  rw [parse, hty, ok_bind, show ("record" == "fixed") = false by decide, hl]; rfl

theorem parse_ok (h : parse (fuel+1) raw ns st dflt ign = .ok (s, st')) :
    (∃ name, raw = .str name ∧ parseName name ns st dflt ign = .ok (s, st')) ∨
    (∃ xs bs, raw = .list xs ∧ parseListWith (fun x st => parse fuel x ns st none ign) xs st = .ok (bs, st') ∧ s = .union bs) ∨
    (∃ kv ty lt, raw = .dict kv ∧ dictType kv = .ok ty ∧ parseLogical kv (ty == "fixed") = .ok lt ∧
      ((ty = "array" ∧ parseArray (fun x st => parse fuel x ns st none ign) kv st dflt ign = .ok (s, st')) ∨
       (ty = "map" ∧ parseMap (fun x st => parse fuel x ns st none ign) kv st dflt ign = .ok (s, st')) ∨
       (ty = "enum" ∧ parseEnum kv ns st dflt ign = .ok (s, st')) ∨
       (ty = "fixed" ∧ parseFixed kv ns st dflt ign lt = .ok (s, st')) ∨
       (ty = "record" ∧ parseRecord (fun ns' fs st => parseFieldsWith (fun ty st d => parse fuel ty ns' st d ign) fs st)
          kv ns st dflt ign = .ok (s, st')) ∨
       parsePrimDict ty st dflt ign lt = .ok (s, st'))) := by
  cases raw <;> simp only [parse, reduceCtorEq] at h
  case str name => exact .inl ⟨name, rfl, h⟩
  case list xs =>
    simp only [bind_ok_iff, pure_ok_iff, Prod.mk.injEq] at h
    obtain ⟨⟨bs, st1⟩, h1, _, _, rfl, rfl⟩ := h
    exact .inr (.inl ⟨xs, bs, rfl, h1, rfl⟩)
  case dict kv =>
    simp only [bind_ok_iff] at h
    obtain ⟨ty, hty, lt, hl, h⟩ := h
    refine .inr (.inr ⟨kv, ty, lt, rfl, hty, hl, ?_⟩)
    -- down the if-chain on `ty` by hand: five `split at h` do the same, at several times the cost (each is a `simp`)
    by_cases c1 : (ty == "array") = true
    · rw [if_pos c1] at h; exact .inl ⟨beq_iff_eq.mp c1, h⟩
    by_cases c2 : (ty == "map") = true
    · rw [if_neg c1, if_pos c2] at h; exact .inr (.inl ⟨beq_iff_eq.mp c2, h⟩)
    by_cases c3 : (ty == "enum") = true
    · rw [if_neg c1, if_neg c2, if_pos c3] at h; exact .inr (.inr (.inl ⟨beq_iff_eq.mp c3, h⟩))
    by_cases c4 : (ty == "fixed") = true
    · rw [if_neg c1, if_neg c2, if_neg c3, if_pos c4] at h; exact .inr (.inr (.inr (.inl ⟨beq_iff_eq.mp c4, h⟩)))
    by_cases c5 : (ty == "record") = true
    · rw [if_neg c1, if_neg c2, if_neg c3, if_neg c4, if_pos c5] at h
      exact .inr (.inr (.inr (.inr (.inl ⟨beq_iff_eq.mp c5, h⟩))))
    · rw [if_neg c1, if_neg c2, if_neg c3, if_neg c4, if_neg c5] at h; exact .inr (.inr (.inr (.inr (.inr h))))

theorem parseListWith_induct {motive : List Val → St → List Schema → St → Prop} (nil : ∀ st, motive [] st [] st)
    (cons : ∀ {x xs st s st1 ss st2}, p x st = .ok (s, st1) → motive xs st1 ss st2 → motive (x :: xs) st (s :: ss) st2) :
    ∀ {xs st bs st'}, parseListWith p xs st = .ok (bs, st') → motive xs st bs st'
  | [], st, bs, st', h => by cases h; exact nil st
  | x :: xs, st, bs, st', h => by
    simp only [parseListWith, bind_ok_iff, pure_ok_iff, Prod.mk.injEq] at h
    obtain ⟨⟨s, st1⟩, h1, ⟨ss, st2⟩, h2, rfl, rfl⟩ := h
    exact cons h1 (parseListWith_induct nil cons h2)

theorem parseFieldsWith_induct {p : Val → St → Option Val → R (Schema × St)} {motive : List Val → St → List Field → St → Prop}
    (nil : ∀ st, motive [] st [] st)
    (cons : ∀ {kv xs st al d name ty s st1 fs st2}, fieldHeader kv = .ok (al, d, name, ty) → p ty st d = .ok (s, st1) →
      motive xs st1 fs st2 → motive (.dict kv :: xs) st (.mk name s d al :: fs) st2) :
    ∀ {xs st fs st'}, parseFieldsWith p xs st = .ok (fs, st') → motive xs st fs st'
  | [], st, fs, st', h => by cases h; exact nil st
  | x :: xs, st, fs, st', h => by
    cases x <;> simp only [parseFieldsWith, reduceCtorEq] at h
    simp only [bind_ok_iff, pure_ok_iff, Prod.mk.injEq] at h
    obtain ⟨⟨al, d, name, ty⟩, hh, ⟨s, st1⟩, h1, ⟨fs', st2⟩, h2, rfl, rfl⟩ := h
    exact cons hh h1 (parseFieldsWith_induct nil cons h2)

theorem parseTop_go_induct {motive : List Val → Env → List Schema → Env → Prop} (nil : ∀ env, motive [] env [] env)
    (cons : ∀ {x xs env s st1 ss env2}, parse fuel x "" { names := [], env := env } none ign = .ok (s, st1) →
      motive xs st1.env ss env2 → motive (x :: xs) env (s :: ss) env2) :
    ∀ {xs env ss env'}, parseTop.go fuel ign xs env = .ok (ss, env') → motive xs env ss env'
  | [], env, ss, env', h => by cases h; exact nil env
  | x :: xs, env, ss, env', h => by
    simp only [parseTop.go, bind_ok_iff, pure_ok_iff, Prod.mk.injEq] at h
    obtain ⟨⟨s, st1⟩, h1, ⟨ss', env2⟩, h2, rfl, rfl⟩ := h
    exact cons h1 (parseTop_go_induct nil cons h2)

theorem parseTop_ok {env env' : Env} (h : parseTop fuel raw env ign = .ok (s, env')) :
    (∃ xs ss, raw = .list xs ∧ parseTop.go fuel ign xs env = .ok (ss, env') ∧ s = .union ss) ∨
    ((∀ xs, raw ≠ .list xs) ∧ ∃ st', parse fuel raw "" { names := [], env := env } none ign = .ok (s, st') ∧ env' = st'.env) := by
  unfold parseTop at h
  split at h <;> simp only [bind_ok_iff, pure_ok_iff, Prod.mk.injEq] at h
  · obtain ⟨⟨ss, env2⟩, hgo, rfl, rfl⟩ := h
    exact .inl ⟨_, ss, rfl, hgo, rfl⟩
  · obtain ⟨⟨s1, st1⟩, hp, rfl, rfl⟩ := h
    exact .inr ⟨‹_›, st1, hp, rfl⟩

theorem parseListWith_inv {I : St → Prop} (hp : ∀ {x st s st1}, p x st = .ok (s, st1) → I st → I st1) {xs bs}
    (h : parseListWith p xs st = .ok (bs, st')) : I st → I st' :=
  parseListWith_induct (motive := fun _ st _ st' => I st → I st') (fun _ => id) (fun h1 ih hi => ih (hp h1 hi)) h

theorem parseFieldsWith_inv {p : Val → St → Option Val → R (Schema × St)} {I : St → Prop}
    (hp : ∀ {ty st d s st1}, p ty st d = .ok (s, st1) → I st → I st1) {xs fs}
    (h : parseFieldsWith p xs st = .ok (fs, st')) : I st → I st' :=
  parseFieldsWith_induct (motive := fun _ st _ st' => I st → I st') (fun _ => id) (fun _ h1 ih hi => ih (hp h1 hi)) h

section
variable (I : St → Prop) (hname : ∀ {st full}, I st → I { st with names := st.names ++ [full] })
  (hset : ∀ {st k s}, I st → s.isNamedDef = true → s.defName? = some k → I { st with env := st.env.set k s })
include hname hset

/-- `_parse_schema` changes its state in two ways only, by registering a name and by storing a named-type definition
    under its own name: what both preserve, parsing preserves -/
theorem parse_inv : ∀ fuel {raw ns st dflt ign s st'}, parse fuel raw ns st dflt ign = .ok (s, st') → I st → I st'
  | 0, _, _, _, _, _, _, _, h, _ => by cases h
  | fuel+1, raw, ns, st, dflt, ign, s, st', h, hi => by
    rcases parse_ok h with ⟨_, _, h⟩ | ⟨_, _, _, h, _⟩ |
      ⟨kv, _, _, _, _, _, ⟨_, h⟩ | ⟨_, h⟩ | ⟨_, h⟩ | ⟨_, h⟩ | ⟨_, h⟩ | h⟩
    · exact (parseName_ok h).1 ▸ hi
    · exact parseListWith_inv (parse_inv fuel) h hi
    · obtain ⟨_, _, _, h1, _⟩ := parseArray_ok h; exact parse_inv fuel h1 hi
    · obtain ⟨_, _, _, h1, _⟩ := parseMap_ok h; exact parse_inv fuel h1 hi
    · obtain ⟨_, full, _, _, _, _, _, rfl, rfl⟩ := parseEnum_ok h; exact hset (hname hi) rfl rfl
    · obtain ⟨_, full, _, _, _, _, rfl, rfl⟩ := parseFixed_ok h; exact hset (hname hi) rfl rfl
    · obtain ⟨_, full, _, _, _, _, hf, rfl, rfl⟩ := parseRecord_ok h
      have hi' : I (recordSt kv full st) := hset (s := .record full [] (aliasesOf kv)) (hname hi) rfl rfl
      exact hset (parseFieldsWith_inv (parse_inv fuel) hf hi') rfl rfl
    · exact (parsePrimDict_ok h).1 ▸ hi

end

theorem names_mono {n : String} (h : parse fuel raw ns st dflt ign = .ok (s, st')) (hn : n ∈ st.names) : n ∈ st'.names :=
  parse_inv (n ∈ ·.names) (hname := List.mem_append_left _) (hset := fun hi _ _ => hi) fuel h hn

theorem definition_ok {ty : String} (hty : dictType kv = .ok ty) (hl : parseLogical kv (ty == "fixed") = .ok lt)
    (hnamed : ty = "enum" ∨ ty = "fixed" ∨ ty = "record") (h : parse (fuel+1) (.dict kv) ns st dflt ign = .ok (s, st')) :
    ∃ ns' full, schemaName kv ns = .ok (ns', full) ∧ st.names.contains full = false ∧ full ∈ st'.names ∧
      st'.env.get? full = some s ∧ s.defName? = some full := by
  rcases hnamed with rfl | rfl | rfl
  · rw [route_enum hty hl] at h
    obtain ⟨ns', full, _, _, hn, hc, _, rfl, rfl⟩ := parseEnum_ok h
    exact ⟨ns', full, hn, hc, by simp, Env.get?_set_self .., rfl⟩
  · rw [route_fixed hty hl] at h
    obtain ⟨ns', full, _, hn, hc, _, rfl, rfl⟩ := parseFixed_ok h
    exact ⟨ns', full, hn, hc, by simp, Env.get?_set_self .., rfl⟩
  · rw [route_record hty hl] at h
    obtain ⟨ns', full, fs, st2, hn, hc, hf, rfl, rfl⟩ := parseRecord_ok h
    have hin : full ∈ (recordSt kv full st).names := List.mem_append_right _ (List.mem_singleton_self _)
    exact ⟨ns', full, hn, hc, parseFieldsWith_inv names_mono hf hin, Env.get?_set_self .., rfl⟩

end Parse

namespace EnvInv
open Parse

/-- every entry of the named-schema table is a named-type definition registered under its own full name -/
def EnvNamedI (env : Env) : Prop := ∀ n d, env.get? n = some d → d.isNamedDef = true ∧ d.defName? = some n

theorem named_empty : EnvNamedI [] := Env.All.nil

theorem set_named {env : Env} {k : String} {s : Schema} (h : EnvNamedI env) (hs : s.isNamedDef = true) (hk : s.defName? = some k) :
    EnvNamedI (env.set k s) :=
  Env.All.set h ⟨hs, hk⟩

theorem parseTop_inv (I : Env → Prop) (hset : ∀ {env k s}, I env → s.isNamedDef = true → s.defName? = some k → I (env.set k s))
    {fuel : Nat} {raw : Val} {env env' : Env} {ign : Bool} {s : Schema} (h : parseTop fuel raw env ign = .ok (s, env')) (hi : I env) :
    I env' := by
  have one {x : Val} {st st' : St} {s : Schema} (h : parse fuel x "" st none ign = .ok (s, st')) : I st.env → I st'.env :=
    parse_inv (I ·.env) id hset fuel h
  rcases parseTop_ok h with ⟨xs, ss, _, hgo, _⟩ | ⟨_, st', hp, rfl⟩
  · exact parseTop_go_induct (motive := fun _ env _ env' => I env → I env') (fun _ => id) (fun h1 ih hi => ih (one h1 hi)) hgo hi
  · exact one hp hi

end EnvInv
