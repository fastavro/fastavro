/-
  Proofs/Generate.lean — C20: whatever the random source returns, `gen_data` yields a datum that
  conforms to the schema (Spec.conforms).
-/
import Model.Generate
import Proofs.R
import Proofs.Dict
import Proofs.Validate

namespace GenProofs
open Generate R Dict

theorem randint_range {a b : Int} {ρ : Rand} {i : Nat} {n : Int} (h : randint a b ρ i = .ok n) : a ≤ n ∧ n ≤ b := by
  unfold randint at h
  split at h
  · cases h
  · cases h
    have hpos : (0 : Int) < b - a + 1 := by omega
    have h1 := Int.emod_nonneg (ρ i : Int) (Int.ne_of_gt hpos)
    have h2 := Int.emod_lt_of_pos (ρ i : Int) hpos
    omega

/-- not a tuple, which `Spec.conformsNode` would read under a union as a `(name, value)` branch hint -/
def notTuple : Val → Bool
  | .tuple _ => false
  | _ => true

theorem genPrim_ok {p : Prim} {ρ : Rand} {i : Nat} {v : Val} {i' : Nat} (h : genPrim p ρ i = .ok (v, i')) :
    Spec.conformsPrim p v = true ∧ notTuple v = true := by
  cases p <;> simp only [genPrim, bind_ok_iff, pure_ok_iff, Prod.mk.injEq] at h
  case int | long =>
    obtain ⟨n, hn, rfl, _⟩ := h
    have := randint_range hn
    exact ⟨by rw [← ValidateProofs.validPrim_eq]; simp [Validate.validPrim, this], rfl⟩
  case boolean => obtain ⟨n, _, rfl, _⟩ := h; exact ⟨rfl, rfl⟩
  all_goals obtain ⟨rfl, _⟩ := h; exact ⟨rfl, rfl⟩

theorem items_ok {g : Nat → R (Val × Nat)} {P : Val → Bool} (hg : ∀ {i x i'}, g i = .ok (x, i') → P x = true) :
    ∀ {n i xs i'}, genItemsWith g n i = .ok (xs, i') → xs.all P = true ∧ xs.length = n := by
  intro n
  induction n with
  | zero =>
    intro i xs i' h
    cases h; exact ⟨rfl, rfl⟩
  | succ n ih =>
    intro i xs i' h
    simp only [genItemsWith, bind_ok_iff, pure_ok_iff, Prod.mk.injEq] at h
    obtain ⟨⟨x, i1⟩, h1, ⟨ys, i2⟩, h2, rfl, _⟩ := h
    obtain ⟨ha, hl⟩ := ih h2
    exact ⟨by rw [List.all_cons, hg h1, ha]; rfl, by rw [List.length_cons, hl]⟩

theorem entries_ok (P : Val × Val → Prop) {g : Nat → R (Val × Nat)} {ρ : Rand}
    (hg : ∀ {i x i'} k, g i = .ok (x, i') → P (.str k, x)) :
    ∀ {n i acc kv i'}, (∀ e ∈ acc, P e) → genEntriesWith g ρ n i acc = .ok (kv, i') → ∀ e ∈ kv, P e := by
  intro n
  induction n with
  | zero =>
    intro i acc kv i' ha h
    cases h; exact ha
  | succ n ih =>
    intro i acc kv i' ha h
    simp only [genEntriesWith, bind_ok_iff] at h
    obtain ⟨⟨x, i1⟩, h1, h2⟩ := h
    refine ih (fun e he => ?_) h2
    rcases mem_valDictSet he with he | rfl
    · exact ha e he
    · exact hg _ h1

/-- the names are distinct, so no later field overwrites the value generated for an earlier one -/
theorem fields_ok {g : Schema → Nat → R (Val × Nat)} {cf : Schema → Val → Bool} :
    ∀ {fs : List Field} {i acc kv i'}, (∀ f ∈ fs, ∀ {i x i'}, g f.type i = .ok (x, i') → cf f.type x = true) →
      (fs.map Field.name).Nodup → genFieldsWith g fs i acc = .ok (kv, i') →
      (∀ f ∈ fs, ∃ x, dictGetV kv f.name = some x ∧ cf f.type x = true) ∧
      (∀ k, k ∉ fs.map Field.name → dictGetV kv k = dictGetV acc k) := by
  intro fs
  induction fs with
  | nil =>
    intro i acc kv i' _ _ h
    cases h
    exact ⟨nofun, fun _ _ => rfl⟩
  | cons f rest ih =>
    intro i acc kv i' hg hnd h
    rw [List.map_cons, List.nodup_cons] at hnd
    simp only [genFieldsWith, bind_ok_iff] at h
    obtain ⟨⟨x, i1⟩, h1, h2⟩ := h
    obtain ⟨ha, hb⟩ := ih (fun f' hf' => hg f' (List.mem_cons_of_mem _ hf')) hnd.2 h2
    constructor
    · intro f' hf'
      rcases List.mem_cons.mp hf' with rfl | hf'
      · exact ⟨x, by rw [hb f'.name hnd.1, get_set_same], hg _ List.mem_cons_self h1⟩
      · exact ha f' hf'
    · intro k hk
      rw [List.map_cons, List.mem_cons, not_or] at hk
      rw [hb k hk.2, get_set_other acc f.name k x hk.1]

theorem gen_conforms {env : Env} {ρ : Rand} (henv : env.fieldsOk = true) {fuel : Nat} :
    ∀ s {i v i'}, s.fieldsOk = true → genData fuel env ρ s i = .ok (v, i') →
      Spec.conforms fuel env false false s v = true ∧ notTuple v = true := by
  induction fuel with
  | zero => intro s i v i' _ h; cases h
  | succ fuel ih =>
    intro s i v i' hs h
    cases s with
    | prim p d lt =>
      cases lt with
      | some _ => cases h
      | none => exact genPrim_ok h
    | fixed n sz lt al =>
      cases lt with
      | some _ => cases h
      | none => cases h; exact ⟨by simp [Spec.conforms, Spec.conformsNode, randBytes], rfl⟩
    | enum n syms d al =>
      simp only [genData, bind_ok_iff] at h
      obtain ⟨k, _, h2⟩ := h
      split at h2
      · rename_i x hx
        cases h2; exact ⟨List.contains_iff_mem.mpr (List.mem_of_getElem? hx), rfl⟩
      · cases h2
    | array items =>
      simp only [genData, bind_ok_iff, pure_ok_iff, Prod.mk.injEq] at h
      obtain ⟨⟨xs, i1⟩, h1, rfl, _⟩ := h
      exact ⟨(items_ok (fun hx => (ih items hs hx).1) h1).1, rfl⟩
    | map values =>
      simp only [genData, bind_ok_iff, pure_ok_iff, Prod.mk.injEq] at h
      obtain ⟨⟨kv, i1⟩, h1, rfl, _⟩ := h
      have := entries_ok (fun e => e.1.isStr = true ∧ Spec.conforms fuel env false false values e.2 = true)
        (fun _ hx => ⟨rfl, (ih values hs hx).1⟩) (by nofun) h1
      exact ⟨Bool.and_eq_true_iff.mpr
        ⟨List.all_eq_true.mpr fun e he => (this e he).1, List.all_eq_true.mpr fun e he => (this e he).2⟩, rfl⟩
    | union bs =>
      simp only [genData, bind_ok_iff] at h
      obtain ⟨k, _, h2⟩ := h
      split at h2
      · rename_i b hb
        have hmem := List.mem_of_getElem? hb
        obtain ⟨hc, hnt⟩ := ih b (Schema.fieldsOkList_iff.mp hs b hmem) h2
        refine ⟨?_, hnt⟩
        cases v <;> first | exact List.any_eq_true.mpr ⟨b, hmem, hc⟩ | cases hnt
      · cases h2
    | record n fields al =>
      simp only [genData, bind_ok_iff, pure_ok_iff, Prod.mk.injEq] at h
      obtain ⟨⟨kv, i1⟩, h1, rfl, _⟩ := h
      simp only [Schema.fieldsOk, Bool.and_eq_true, decide_eq_true_eq, Bool.not_eq_true'] at hs
      obtain ⟨⟨hnd, hnt⟩, hfs⟩ := hs
      obtain ⟨ha, hb⟩ := fields_ok (cf := Spec.conforms fuel env false false)
        (fun f hf _ _ _ hx => (ih f.type (Schema.fieldsOkFields_iff.mp hfs f hf) hx).1) hnd h1
      refine ⟨Bool.and_eq_true_iff.mpr ⟨?_, List.all_eq_true.mpr fun f hf => ?_⟩, rfl⟩
      · rw [typeHintOk, hb "-type" (by simpa [List.contains_iff_mem] using hnt)]; rfl
      · obtain ⟨x, hx, hcx⟩ := ha f hf
        simp only [hx, hcx]
    | ref n =>
      simp only [genData] at h
      split at h
      · rename_i s' hg
        obtain ⟨hc, hnt⟩ := ih s' (Env.all_get? (p := Schema.fieldsOk) henv hg) h
        exact ⟨by simp only [Spec.conforms, Spec.conformsNode, hg]; exact hc, hnt⟩
      · cases h

end GenProofs
