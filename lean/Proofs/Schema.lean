/-
  Proofs/Schema.lean — the recursive guards of Model/Schema.lean as statements about members; look-up in `Env`, and
  what holds of every entry (`Env.All`); the equations of `Prim.ofName?`, `unwrapRef`, `Env.set`.
-/
import Model.Schema

theorem Prim.ofName_some {name : String} {p : Prim} (h : Prim.ofName? name = some p) : p.name = name := by
  unfold Prim.ofName? at h
  split at h <;> cases h <;> rfl

theorem Schema.plainList_iff {bs : List Schema} : Schema.plainList bs = true ↔ ∀ b ∈ bs, b.plain = true := by
  induction bs with
  | nil => simp [Schema.plainList]
  | cons x xs ih => simp [Schema.plainList, ih]

theorem Schema.plainFields_iff {fs : List Field} : Schema.plainFields fs = true ↔ ∀ f ∈ fs, f.type.plain = true := by
  induction fs with
  | nil => simp [Schema.plainFields]
  | cons x xs ih => cases x; simp [Schema.plainFields, ih, Field.type]

theorem Schema.fieldsOkList_iff {bs : List Schema} : Schema.fieldsOkList bs = true ↔ ∀ b ∈ bs, b.fieldsOk = true := by
  induction bs with
  | nil => simp [Schema.fieldsOkList]
  | cons x xs ih => simp [Schema.fieldsOkList, ih]

theorem Schema.fieldsOkFields_iff {fs : List Field} : Schema.fieldsOkFields fs = true ↔ ∀ f ∈ fs, f.type.fieldsOk = true := by
  induction fs with
  | nil => simp [Schema.fieldsOkFields]
  | cons x xs ih => cases x; simp [Schema.fieldsOkFields, ih, Field.type]

theorem Env.mem_of_get? {env : Env} {n : String} {s : Schema} (hg : env.get? n = some s) : ∃ k, (k, s) ∈ env := by
  induction env with
  | nil => cases hg
  | cons e rest ih =>
    obtain ⟨k, sk⟩ := e
    simp only [Env.get?] at hg
    split at hg
    · cases hg; exact ⟨k, by simp⟩
    · obtain ⟨k', h⟩ := ih hg; exact ⟨k', by simp [h]⟩

theorem Env.all_get? {p : Schema → Bool} {env : Env} (h : env.all (fun e => p e.2) = true) {n : String} {s : Schema}
    (hg : env.get? n = some s) : p s = true := by
  obtain ⟨k, hk⟩ := Env.mem_of_get? hg
  exact List.all_eq_true.mp h _ hk

theorem Env.get?_set (env : Env) (k : String) (s : Schema) (n : String) :
    (env.set k s).get? n = if k == n then some s else env.get? n := by
  induction env with
  | nil => rfl
  | cons e rest ih =>
    obtain ⟨k', s'⟩ := e
    by_cases hk : k' = k
    · subst hk
      simp only [Env.set, Env.get?, BEq.rfl, ↓reduceIte]
      split <;> rfl
    · simp only [Env.set, Env.get?, beq_false_of_ne hk, Bool.false_eq_true, ↓reduceIte, ih]
      by_cases hn : k = n
      · subst hn; simp only [beq_false_of_ne hk, BEq.rfl, Bool.false_eq_true, ↓reduceIte]
      · simp only [beq_false_of_ne hn, Bool.false_eq_true, ↓reduceIte]

theorem Env.get?_set_self (env : Env) (k : String) (s : Schema) : (env.set k s).get? k = some s := by
  rw [Env.get?_set, if_pos BEq.rfl]

/-- "every entry of the table satisfies `P`".  The table invariants of the development (`EnvInv.EnvNamedI`,
    `ResolveMatch.EnvWF.named`, `JMProofs.EnvOk`, …) are this at their own `P`, written out, so `nil` and `set` prove them of
    the empty table and of a table after a registration (`ResolveFull.EnvGood` too is of this form, but its `P` mentions the table). -/
def Env.All (P : String → Schema → Prop) (env : Env) : Prop := ∀ n d, env.get? n = some d → P n d

theorem Env.All.nil {P : String → Schema → Prop} : Env.All P [] := nofun

theorem Env.All.set {P : String → Schema → Prop} {env : Env} {k : String} {s : Schema} (h : env.All P) (hs : P k s) :
    (env.set k s).All P := by
  intro n d hd
  rw [Env.get?_set] at hd
  split at hd
  · cases hd; exact beq_iff_eq.mp ‹_› ▸ hs
  · exact h n d hd

theorem Env.All.single {P : String → Schema → Prop} {k : String} {s : Schema} (hs : P k s) : Env.All P [(k, s)] :=
  Env.All.set .nil hs

theorem Env.set_fresh {env : Env} {k : String} (s : Schema) (h : ∀ p ∈ env, p.1 ≠ k) : env.set k s = env ++ [(k, s)] := by
  induction env with
  | nil => rfl
  | cons q qs ih =>
    rw [Env.set, if_neg (by simpa using h q List.mem_cons_self), ih fun p hp => h p (List.mem_cons_of_mem _ hp)]; rfl

theorem unwrapRef_ref {env : Env} {n : String} {s' : Schema} (hget : env.get? n = some s') (hnd : s'.isNamedDef = true) :
    unwrapRef env (.ref n) = unwrapRef env s' := by
  cases s' <;> cases hnd <;> simp [unwrapRef, hget]
