/-
  Proofs/ResolveMatch.lean — C08, the decision logic.  Fuel apart (`NonFuel.Le`), `match_schemas` answers what
  `msSpec` says: the specification's "schemas match", and on a match the reader schema `cont` (`ms_le`); so
  `match_types` is the specification's "schemas match" (`mt_le`), and the branch of a reader union chosen through
  `_reader_branches` + `match_types` is the one the specification's rule picks (`pick_le`).
-/
import Proofs.Resolve
import Proofs.NonFuel
import Proofs.List

namespace ResolveMatch
open Resolve ResolveProofs NonFuel

/-- what `parse_schema` guarantees about a named-schema table -/
structure EnvWF (env : Env) : Prop where
  noAvro : ∀ n, AVRO_TYPES.contains n = true → env.get? n = none
  named : ∀ n d, env.get? n = some d → d.isNamedDef = true ∧ d.defName? = some n

theorem EnvWF.noPrimKeys {env : Env} (h : EnvWF env) : NoPrimKeys env := fun p => h.noAvro _ (prim_in_avro p)

/-- the positions `match_types` looks at (through arrays and maps): names are defined.  `reg = true` is the reader
    side, where an inline definition is moreover the table's entry of its name; `reg = false` the writer side. -/
def MClosed (env : Env) (reg : Bool) : Schema → Prop
  | .ref n => ∃ d, env.get? n = some d
  | .array i => MClosed env reg i
  | .map v => MClosed env reg v
  | .record n f a => reg = true → env.get? n = some (.record n f a)
  | .enum n s d a => reg = true → env.get? n = some (.enum n s d a)
  | .fixed n s l a => reg = true → env.get? n = some (.fixed n s l a)
  | _ => True

theorem unqual_eq (n : String) : unqual n = Spec.unqualified n := rfl
theorem namesMatch_eq (a b : String) (al : List String) : namesMatch a b al = Spec.sameName a b al := rfl
theorem ok_bind' {α β} (a : α) (f : α → R β) : ((Except.ok a : R α) >>= f) = f a := rfl

/-!
  The code compares type *names*; the specification compares constructors.  What links them: every schema but a
  name has a built-in type name, no key of a table is one, and only names of primitive types promote. -/

theorem typeName_ref (n : String) : (Schema.ref n).typeName = n := rfl

theorem typeName_avro : ∀ s : Schema, (∀ n, s ≠ .ref n) → AVRO_TYPES.contains s.typeName = true
  | .prim p _ _, _ => prim_in_avro p
  | .ref n, h => absurd rfl (h n)
  | .record .., _ => (by decide : AVRO_TYPES.contains "record" = true)
  | .enum .., _ => (by decide : AVRO_TYPES.contains "enum" = true)
  | .fixed .., _ => (by decide : AVRO_TYPES.contains "fixed" = true)
  | .array _, _ => (by decide : AVRO_TYPES.contains "array" = true)
  | .map _, _ => (by decide : AVRO_TYPES.contains "map" = true)
  | .union _, _ => (by decide : AVRO_TYPES.contains "union" = true)

theorem ref_of_nonavro {s : Schema} (h : AVRO_TYPES.contains s.typeName = false) : ∃ n, s = .ref n := by
  cases s with
  | ref n => exact ⟨n, rfl⟩
  | _ => rw [typeName_avro _ (fun _ e => by cases e)] at h; cases h

theorem promotes_prims (a b : String) (h : promotes a b = true) : ∃ p q : Prim, a = p.name ∧ b = q.name := by
  simp only [promotes, PROMOTIONS, List.contains_cons, List.contains_nil, Bool.or_false, Bool.or_eq_true, beq_iff_eq,
    Prod.mk.injEq] at h
  rcases h with ⟨rfl, rfl⟩ | ⟨rfl, rfl⟩ | ⟨rfl, rfl⟩ | ⟨rfl, rfl⟩ | ⟨rfl, rfl⟩ | ⟨rfl, rfl⟩ | ⟨rfl, rfl⟩ | ⟨rfl, rfl⟩
  · exact ⟨.bytes, .string, rfl, rfl⟩
  · exact ⟨.float, .double, rfl, rfl⟩
  · exact ⟨.int, .double, rfl, rfl⟩
  · exact ⟨.int, .float, rfl, rfl⟩
  · exact ⟨.int, .long, rfl, rfl⟩
  · exact ⟨.long, .double, rfl, rfl⟩
  · exact ⟨.long, .float, rfl, rfl⟩
  · exact ⟨.string, .bytes, rfl, rfl⟩

theorem promotes_avro (a b : String) (h : promotes a b = true) : AVRO_TYPES.contains a = true ∧ AVRO_TYPES.contains b = true := by
  obtain ⟨p, q, rfl, rfl⟩ := promotes_prims a b h
  exact ⟨prim_in_avro p, prim_in_avro q⟩

theorem names_avro_ne {a b : String} (h : AVRO_TYPES.contains a ≠ AVRO_TYPES.contains b) : (a == b || promotes a b) = false :=
  Bool.eq_false_iff.2 fun hab => by
    rcases Bool.or_eq_true _ _ ▸ hab with e | e
    · rw [beq_iff_eq.1 e] at h; exact h rfl
    · obtain ⟨h1, h2⟩ := promotes_avro a b e; rw [h1, h2] at h; exact h rfl

theorem promotes_not_prim {a b : String} (h : (∀ p : Prim, a ≠ p.name) ∨ ∀ p : Prim, b ≠ p.name) : promotes a b = false :=
  Bool.eq_false_iff.2 fun hp => by
    obtain ⟨p, q, rfl, rfl⟩ := promotes_prims a b hp
    exact h.elim (fun h => h p rfl) (fun h => h q rfl)

/-- the status of `match_schemas` as `match_types` reads it -/
def status (x : R Schema) : R Bool :=
  match x with | .ok _ => .ok true | .error .resolution => .ok false | .error e => .error e

theorem status_ne_resolution (x : R Schema) : status x ≠ .error .resolution := by
  cases x with
  | ok _ => nofun
  | error e => cases e <;> nofun

theorem key_not_avro {env : Env} (hwf : EnvWF env) {n : String} {d : Schema} (h : env.get? n = some d) :
    AVRO_TYPES.contains n = false :=
  Bool.eq_false_iff.2 fun hc => by rw [hwf.noAvro n hc] at h; cases h

theorem names_lookup {ms : Schema → Schema → R Schema} {wenv renv : Env} (hwf : EnvWF wenv) {a b : String} {wd rd : Schema}
    (ha : wenv.get? a = some wd) (hb : renv.get? b = some rd) :
    matchNamesWith ms wenv renv a b = status (ms wd rd) := by
  unfold matchNamesWith status
  have h1 : AVRO_TYPES.contains a = false := key_not_avro hwf ha
  have h2 : promotes a b = false := Bool.eq_false_iff.2 fun hp => by rw [(promotes_avro a b hp).1] at h1; cases h1
  simp only [h1, Bool.and_false, Bool.false_eq_true, if_false, h2, ha, hb]
  cases ms wd rd with
  | ok _ => rfl
  | error e => cases e <;> rfl

theorem names_ne_resolution (ms) (wenv renv : Env) (a b : String) : matchNamesWith ms wenv renv a b ≠ .error .resolution := by
  unfold matchNamesWith
  split
  · nofun
  · split
    · nofun
    · split
      · exact status_ne_resolution _
      · nofun

theorem matchTypesWith_dict {ms} {wenv renv : Env} {w r : Schema} (hl : (isList w || isList r) = false)
    (hd : (isDict w || isDict r) = true) : matchTypesWith ms wenv renv w r = status (ms w r) := by
  unfold matchTypesWith status
  simp only [hl, Bool.false_eq_true, if_false, hd, if_true]
  cases ms w r with
  | ok _ => rfl
  | error e => cases e <;> rfl

theorem matchTypesWith_str {ms} {wenv renv : Env} {w r : Schema} (hl : (isList w || isList r) = false)
    (hd : (isDict w || isDict r) = false) :
    matchTypesWith ms wenv renv w r = matchNamesWith ms wenv renv w.typeName r.typeName := by
  unfold matchTypesWith
  simp only [hl, Bool.false_eq_true, if_false, hd]

/-- `match_types` never raises `SchemaResolutionError`: it catches that of `match_schemas` (`return False`) -/
theorem mt_ne_resolution (ms) (wenv renv : Env) (w r : Schema) : matchTypesWith ms wenv renv w r ≠ .error .resolution := by
  unfold matchTypesWith
  split
  · nofun
  · split
    · exact status_ne_resolution _
    · exact names_ne_resolution ms wenv renv _ _

def sizeOk : Schema → Schema → Bool
  | .fixed _ ws _ _, .fixed _ rs _ _ => ws == rs
  | _, _ => true

/-- the decision of the NAMED_TYPES branch of `match_schemas` on two definitions -/
def namedDecision (w r : Schema) : Bool :=
  w.typeName == r.typeName && sizeOk w r && namesMatch (w.defName?.getD "") (r.defName?.getD "") (aliasesOfDef r)

/-- the last alternative of `match_schemas`, reached on the pairs `fallPair` (`ms_fall`) -/
def msFall (ms : Schema → Schema → R Schema) (wenv renv : Env) (w r : Schema) : R Schema :=
  if w.isNamedDef && r.isNamedDef then
    if w.typeName != r.typeName then throw .resolution
    else if !sizeOk w r then throw .resolution
    else if namesMatch (w.defName?.getD "") (r.defName?.getD "") (aliasesOfDef r) then pure r
    else throw .resolution
  else if !AVRO_TYPES.contains w.typeName && r.isNamedDef then do
    if ← matchNamesWith ms wenv renv w.typeName (r.defName?.getD "") then pure (.ref (r.defName?.getD "")) else throw .resolution
  else if w.isNamedDef && !AVRO_TYPES.contains r.typeName then
    match renv.get? r.typeName with
    | some rd => ms w rd
    | none => throw .resolution
  else do
    if ← matchNamesWith ms wenv renv w.typeName r.typeName then pure r else throw .resolution

def fallPair : Schema → Schema → Bool
  | .union _, _ => false
  | _, .union _ => false
  | .map _, .map _ => false
  | .array _, .array _ => false
  | _, _ => true

theorem ms_fall {g : Nat} {wenv renv : Env} {w r : Schema} (h : fallPair w r = true) :
    matchSchemas (g+1) wenv renv w r = msFall (matchSchemas g wenv renv) wenv renv w r := by
  cases w <;> cases r <;> first | exact Bool.noConfusion h | rfl

theorem ite_chain {α} (a s n : Bool) (x e : α) :
    (if (!a) = true then e else if (!s) = true then e else if n = true then x else e) = if (a && s && n) = true then x else e := by
  cases a <;> cases s <;> cases n <;> rfl

theorem msFall_defs {ms : Schema → Schema → R Schema} {wenv renv : Env} {w r : Schema} (h1 : (w.isNamedDef && r.isNamedDef) = true) :
    msFall ms wenv renv w r = if namedDecision w r then .ok r else .error .resolution := by
  unfold msFall namedDecision
  simp only [h1, if_true, bne]
  exact ite_chain _ _ _ _ _

theorem fallPair_str {w r : Schema} (hd : isDict w = false) (huw : isList w = false) (hur : isList r = false) : fallPair w r = true := by
  cases w <;> first | exact Bool.noConfusion hd | exact Bool.noConfusion huw | (cases r <;> first | exact Bool.noConfusion hur | rfl)

theorem notDict_notDef {s : Schema} (hd : isDict s = false) : s.isNamedDef = false := by
  cases s <;> first | exact Bool.noConfusion hd | rfl

/-- the form of the definition of a schema that is not a union (`deref_flat`) -/
def flat : Schema → Bool
  | .union _ | .ref _ => false
  | _ => true

theorem typeName_not_prim {s : Schema} (hf : flat s = true) (h : ∀ p d l, s ≠ .prim p d l) (p : Prim) : s.typeName ≠ p.name := by
  cases s with
  | prim q d l => exact absurd rfl (h q d l)
  | ref n => exact Bool.noConfusion hf
  | _ => simp only [Schema.typeName]; cases p <;> decide

theorem closed_entry {env : Env} {reg : Bool} (he : EnvWF env) {n : String} {d : Schema} (h : env.get? n = some d) : MClosed env reg d := by
  obtain ⟨hn, hd⟩ := he.named n d h
  cases d with
  | record | enum | fixed => cases hd; exact fun _ => h
  | _ => exact Bool.noConfusion hn

theorem entry_not_list {env : Env} (he : EnvWF env) {n : String} {d : Schema} (h : env.get? n = some d) : isList d = false := by
  have hn := (he.named n d h).1
  cases d <;> first | exact Bool.noConfusion hn | rfl

theorem flat_of_avro {env : Env} {reg : Bool} {s : Schema} (he : EnvWF env) (hs : MClosed env reg s) (hu : isList s = false)
    (ha : AVRO_TYPES.contains s.typeName = true) : flat s = true := by
  cases s with
  | ref n => obtain ⟨_, hd⟩ := hs; rw [typeName_ref, key_not_avro he hd] at ha; cases ha
  | union _ => exact Bool.noConfusion hu
  | _ => rfl

theorem named_registered {renv : Env} {r : Schema} (hrn : r.isNamedDef = true) (hr : MClosed renv true r) :
    renv.get? (r.defName?.getD "") = some r := by
  cases r <;> first | exact Bool.noConfusion hrn | exact hr rfl

/-- one function under two names in the model, as fastavro has the look-up in two places -/
theorem definitionOf_eq_unwrapRef : definitionOf = unwrapRef := rfl

theorem definitionOf_entry {env : Env} {n : String} {d : Schema} (h : env.get? n = some d) : definitionOf env (.ref n) = d := by
  rw [definitionOf, h]; rfl

theorem definitionOf_flat {env : Env} {s : Schema} (h : flat s = true) : definitionOf env s = s := by
  cases s <;> first | exact Bool.noConfusion h | rfl

theorem definitionOf_deref {env : Env} {reg : Bool} {s : Schema} (h : MClosed env reg s) : Spec.deref env s = some (definitionOf env s) := by
  cases s with
  | ref n => obtain ⟨d, hd⟩ := h; rw [definitionOf_entry hd]; exact hd
  | _ => rfl

theorem deref_named {env : Env} {s : Schema} (h : s.isNamedDef = true) : Spec.deref env s = some s := by
  cases s <;> first | exact Bool.noConfusion h | rfl

theorem deref_idem {env : Env} (he : EnvWF env) {s d : Schema} (h : Spec.deref env s = some d) : Spec.deref env d = some d := by
  cases s with
  | ref n => exact deref_named (he.named n d h).1
  | _ => cases h; rfl

theorem deref_flat {env : Env} (he : EnvWF env) {s d : Schema} (h : Spec.deref env s = some d) (hu : isList s = false) : flat d = true := by
  cases s with
  | ref n => have := (he.named n d h).1; cases d <;> first | exact Bool.noConfusion this | rfl
  | union _ => exact Bool.noConfusion hu
  | _ => cases h; rfl

section
variable {wenv renv : Env}

theorem matches_ref_w (hwf : EnvWF wenv) {ex : Bool} {n : String} {wd r : Schema} (h : wenv.get? n = some wd) :
    Spec.matchesX ex wenv renv (.ref n) r = Spec.matchesX ex wenv renv wd r := by
  have hd := (hwf.named n wd h).1
  cases wd <;> first | exact Bool.noConfusion hd | simp only [Spec.matchesX, Spec.deref, h]

theorem matches_deref_w (hwf : EnvWF wenv) {ex : Bool} {w wd r : Schema} (h : Spec.deref wenv w = some wd) :
    Spec.matchesX ex wenv renv w r = Spec.matchesX ex wenv renv wd r := by
  cases w with
  | ref n => exact matches_ref_w hwf h
  | _ => cases h; rfl

theorem matches_ref_r (hrf : EnvWF renv) {ex : Bool} {m : String} {w rd : Schema} (h : renv.get? m = some rd) :
    Spec.matchesX ex wenv renv w (.ref m) = Spec.matchesX ex wenv renv w rd := by
  have hn := (hrf.named m rd h).1
  cases rd <;> first | exact Bool.noConfusion hn | (cases w <;> simp only [Spec.matchesX, Spec.deref, h])

theorem matches_deref_r (hrf : EnvWF renv) {ex : Bool} {w r rd : Schema} (h : Spec.deref renv r = some rd) :
    Spec.matchesX ex wenv renv w r = Spec.matchesX ex wenv renv w rd := by
  cases r with
  | ref m => exact matches_ref_r hrf h
  | _ => cases h; rfl

theorem spec_union_w (ex : Bool) (bs : List Schema) {r : Schema} (hr : MClosed renv true r) :
    Spec.matchesX ex wenv renv (.union bs) r = true := by
  unfold Spec.matchesX
  rw [definitionOf_deref hr]
  rfl

theorem spec_union_r (ex : Bool) (bs : List Schema) {w : Schema} (hw : MClosed wenv false w) :
    Spec.matchesX ex wenv renv w (.union bs) = true := by
  have hwd := definitionOf_deref hw
  cases w <;> simp only [Spec.matchesX, Spec.deref] <;>
    (first | rfl | (simp only [Spec.deref] at hwd; simp only [hwd]; cases definitionOf wenv _ <;> rfl))

end

theorem spec_defs (ex : Bool) {wenv renv : Env} {w r : Schema} (hw : w.isNamedDef = true) (hr : r.isNamedDef = true) :
    Spec.matchesX ex wenv renv w r = namedDecision w r := by
  cases w <;> first | exact Bool.noConfusion hw | (cases r <;> first | exact Bool.noConfusion hr |
    simp [Spec.matchesX, Spec.matchFlat, Spec.deref, namedDecision, sizeOk, Schema.typeName, Schema.defName?, aliasesOfDef, namesMatch_eq])

theorem spec_def_other (ex : Bool) {wenv renv : Env} {w r : Schema} (hw : flat w = true) (hr : flat r = true)
    (h : w.isNamedDef ≠ r.isNamedDef) : Spec.matchesX ex wenv renv w r = false := by
  cases w <;> first | exact Bool.noConfusion hw | (cases r <;> first | exact Bool.noConfusion hr | exact absurd rfl h | rfl)

/-- the kind table: outside the pairs `match_schemas` treats on their own (two arrays, two maps, two definitions)
    the specification's match is the comparison of the two type names (`ex`: without promotion) -/
theorem flat_table (ex : Bool) {wenv renv : Env} {w r : Schema} (hw : flat w = true) (hr : flat r = true)
    (hf : fallPair w r = true) (h1 : (w.isNamedDef && r.isNamedDef) = false) :
    Spec.matchesX ex wenv renv w r = (w.typeName == r.typeName || (!ex && promotes w.typeName r.typeName)) := by
  cases w with
  | union _ => exact Bool.noConfusion hw
  | ref n => exact Bool.noConfusion hw
  | prim p _ _ =>
    cases r with
    | union _ => exact Bool.noConfusion hr
    | ref n => exact Bool.noConfusion hr
    | prim q _ _ => simp only [Spec.matchesX, Spec.matchFlat, Spec.deref, Schema.typeName, prim_name_inj, promotes_eq]
    | _ =>
      rw [promotes_not_prim (.inr (typeName_not_prim hr fun _ _ _ e => by cases e)), Bool.and_false, Bool.or_false]
      exact (beq_false_of_ne fun e => typeName_not_prim hr (fun _ _ _ e => by cases e) p e.symm).symm
  | _ =>
    rw [promotes_not_prim (.inl (typeName_not_prim hw fun _ _ _ e => by cases e)), Bool.and_false, Bool.or_false]
    cases r with
    | union _ => exact Bool.noConfusion hr
    | ref n => exact Bool.noConfusion hr
    | prim q _ _ => exact (beq_false_of_ne (typeName_not_prim hw (fun _ _ _ e => by cases e) q)).symm
    | _ => first | exact Bool.noConfusion hf | exact Bool.noConfusion h1 | rfl

/-- the reader schema `match_schemas` continues with: the name of the reader's definition for a writer type given by
    name, the reader's definition itself otherwise -/
def cont (renv : Env) (w r : Schema) : Schema :=
  match w with
  | .ref _ => .ref ((definitionOf renv r).defName?.getD "")
  | _ => definitionOf renv r

/-- `match_schemas` on two schemas that are not unions, fuel apart -/
def msSpec (wenv renv : Env) (w r : Schema) : R Schema :=
  if Spec.matchesS wenv renv w r then .ok (cont renv w r) else .error .resolution

theorem cont_ref (renv : Env) (n : String) (r : Schema) : cont renv (.ref n) r = .ref ((definitionOf renv r).defName?.getD "") := rfl

theorem cont_of_flat {renv : Env} {w : Schema} (r : Schema) (hw : flat w = true) : cont renv w r = definitionOf renv r := by
  cases w <;> first | exact Bool.noConfusion hw | rfl

theorem named_flat {s : Schema} (h : s.isNamedDef = true) : flat s = true := by
  cases s <;> first | exact Bool.noConfusion h | rfl

theorem status_msSpec {wenv renv : Env} (w r : Schema) : status (msSpec wenv renv w r) = .ok (Spec.matchesS wenv renv w r) := by
  unfold msSpec
  cases Spec.matchesS wenv renv w r <;> rfl

def MsLe (wenv renv : Env) (g : Nat) : Prop :=
  ∀ w r, MClosed wenv false w → MClosed renv true r → isList w = false → isList r = false →
    Le (matchSchemas g wenv renv w r) (msSpec wenv renv w r)

theorem ite_le {b : R Bool} {c : Bool} (h : Le b (.ok c)) (x : Schema) :
    Le (do if ← b then pure x else throw Err.resolution : R Schema) (if c then .ok x else .error .resolution) :=
  Le.trans (Le.bind h fun _ _ => Le.refl) (by cases c <;> exact Le.refl)

section
variable {wenv renv : Env} (hwf : EnvWF wenv) (hrf : EnvWF renv)
include hwf hrf

theorem lookup_le {g : Nat} (ih : MsLe wenv renv g) {n m : String} {wd rd : Schema}
    (hn : wenv.get? n = some wd) (hm : renv.get? m = some rd) :
    Le (matchNamesWith (matchSchemas g wenv renv) wenv renv n m) (.ok (Spec.matchesS wenv renv wd rd)) := by
  rw [names_lookup hwf hn hm, ← status_msSpec]
  exact Le.map status rfl (ih wd rd (closed_entry hwf hn) (closed_entry hrf hm) (entry_not_list hwf hn) (entry_not_list hrf hm))

/-- the last branch of `msFall`.  By whether the type names are built in: neither (two names), one (a name against a
    schema that is not a definition: no match on either side), both (the kind table). -/
theorem names_le {g : Nat} (ih : MsLe wenv renv g) {w r : Schema} (hw : MClosed wenv false w) (hr : MClosed renv true r)
    (huw : isList w = false) (hur : isList r = false) (hf : fallPair w r = true) (h1 : (w.isNamedDef && r.isNamedDef) = false)
    (h2 : (!AVRO_TYPES.contains w.typeName && r.isNamedDef) = false) (h3 : (w.isNamedDef && !AVRO_TYPES.contains r.typeName) = false) :
    Le (matchNamesWith (matchSchemas g wenv renv) wenv renv w.typeName r.typeName) (.ok (Spec.matchesS wenv renv w r)) ∧
      (Spec.matchesS wenv renv w r = true → cont renv w r = r) := by
  cases hwa : AVRO_TYPES.contains w.typeName <;> cases hra : AVRO_TYPES.contains r.typeName
  · obtain ⟨n, rfl⟩ := ref_of_nonavro hwa
    obtain ⟨m, rfl⟩ := ref_of_nonavro hra
    obtain ⟨wd, hwd⟩ := hw
    obtain ⟨rd, hrd⟩ := hr
    rw [Spec.matchesS, matches_ref_w hwf hwd, matches_ref_r hrf hrd, cont_ref, definitionOf_entry hrd, (hrf.named _ rd hrd).2]
    exact ⟨lookup_le hwf hrf ih hwd hrd, fun _ => rfl⟩
  · rw [names_nolookup _ (.inr (hrf.noAvro _ hra)), names_avro_ne (by rw [hwa, hra]; exact Bool.noConfusion)]
    obtain ⟨n, rfl⟩ := ref_of_nonavro hwa
    obtain ⟨wd, hwd⟩ := hw
    have hwdn := (hwf.named _ wd hwd).1
    rw [hwa, Bool.not_false, Bool.true_and] at h2
    rw [Spec.matchesS, matches_ref_w hwf hwd,
      spec_def_other false (named_flat hwdn) (flat_of_avro hrf hr hur hra) (by rw [hwdn, h2]; exact Bool.noConfusion)]
    exact ⟨Le.refl, Bool.noConfusion⟩
  · rw [names_nolookup _ (.inl (hwf.noAvro _ hwa)), names_avro_ne (by rw [hwa, hra]; exact Bool.noConfusion)]
    obtain ⟨m, rfl⟩ := ref_of_nonavro hra
    obtain ⟨rd, hrd⟩ := hr
    have hrdn := (hrf.named _ rd hrd).1
    rw [hra, Bool.not_false, Bool.and_true] at h3
    rw [Spec.matchesS, matches_ref_r hrf hrd,
      spec_def_other false (flat_of_avro hwf hw huw hwa) (named_flat hrdn) (by rw [hrdn, h3]; exact Bool.noConfusion)]
    exact ⟨Le.refl, Bool.noConfusion⟩
  · have hfw := flat_of_avro hwf hw huw hwa
    have hfr := flat_of_avro hrf hr hur hra
    rw [names_nolookup _ (.inl (hwf.noAvro _ hwa)), Spec.matchesS, flat_table false hfw hfr hf h1]
    exact ⟨Le.refl, fun _ => (cont_of_flat r hfw).trans (definitionOf_flat hfr)⟩

theorem mt_le_of {g : Nat} (ih : MsLe wenv renv g) (w r : Schema) (hw : MClosed wenv false w) (hr : MClosed renv true r) :
    Le (matchTypes g wenv renv w r) (.ok (Spec.matchesS wenv renv w r)) := by
  unfold matchTypes
  cases hl : (isList w || isList r) with
  | true =>
    have : Spec.matchesS wenv renv w r = true := by
      rcases Bool.or_eq_true _ _ ▸ hl with h | h
      · cases w <;> first | exact Bool.noConfusion h | exact spec_union_w false _ hr
      · cases r <;> first | exact Bool.noConfusion h | exact spec_union_r false _ hw
    rw [this, matchTypesWith, hl]; exact Le.refl
  | false =>
    obtain ⟨huw, hur⟩ := Bool.or_eq_false_iff.1 hl
    cases hd : (isDict w || isDict r) with
    | true =>
      rw [matchTypesWith_dict hl hd, ← status_msSpec]
      exact Le.map status rfl (ih w r hw hr huw hur)
    | false =>
      obtain ⟨hdw, hdr⟩ := Bool.or_eq_false_iff.1 hd
      rw [matchTypesWith_str hl hd]
      refine (names_le hwf hrf ih hw hr huw hur (fallPair_str hdw huw hur) ?_ ?_ ?_).1 <;>
        simp only [notDict_notDef hdw, notDict_notDef hdr, Bool.and_false, Bool.false_and]

theorem ms_le (g : Nat) : MsLe wenv renv g := by
  induction g with
  | zero => exact fun _ _ _ _ _ _ => Le.fuel
  | succ g ih =>
    intro w r hw hr huw hur
    cases hf : fallPair w r with
    | false =>
      -- two arrays or two maps: the item / value types decide
      have key : ∀ wi ri x, MClosed wenv false wi → MClosed renv true ri →
          Le (do if ← matchTypes g wenv renv wi ri then pure x else throw Err.resolution : R Schema)
            (if Spec.matchesS wenv renv wi ri then .ok x else .error .resolution) :=
        fun wi ri x hwi hri => ite_le (mt_le_of hwf hrf ih wi ri hwi hri) x
      cases w <;> first | exact Bool.noConfusion huw | (cases r <;> first | exact Bool.noConfusion hur | exact Bool.noConfusion hf | skip)
      -- on two arrays (two maps) `matchSchemas (g+1)`, `msSpec`, `Spec.matchesS` and `cont` unfold to the two sides of
      -- `key`: the unifier does that
      all_goals exact key _ _ _ hw hr
    | true =>
      rw [ms_fall hf, msSpec]
      cases h1 : (w.isNamedDef && r.isNamedDef) with
      | true =>
        obtain ⟨hwn, hrn⟩ := Bool.and_eq_true_iff.1 h1
        rw [msFall_defs h1, Spec.matchesS, spec_defs false hwn hrn, cont_of_flat r (named_flat hwn), definitionOf_flat (named_flat hrn)]
        exact Le.refl
      | false =>
        rw [msFall, h1, if_neg Bool.false_ne_true]
        cases h2 : (!AVRO_TYPES.contains w.typeName && r.isNamedDef) with
        | true =>
          -- the writer's type by name, the reader's definition in place: compared through the reader's name
          obtain ⟨hwa, hrn⟩ := Bool.and_eq_true_iff.1 h2
          obtain ⟨n, rfl⟩ := ref_of_nonavro (by simpa using hwa)
          obtain ⟨wd, hwd⟩ := hw
          rw [if_pos rfl, Spec.matchesS, matches_ref_w hwf hwd, cont_ref, definitionOf_flat (named_flat hrn)]
          exact ite_le (lookup_le hwf hrf ih hwd (named_registered hrn hr)) _
        | false =>
          rw [if_neg Bool.false_ne_true]
          cases h3 : (w.isNamedDef && !AVRO_TYPES.contains r.typeName) with
          | true =>
            -- the writer's definition in place, the reader's type by name: on to the reader's definition
            obtain ⟨hwn, hra⟩ := Bool.and_eq_true_iff.1 h3
            obtain ⟨m, rfl⟩ := ref_of_nonavro (by simpa using hra)
            obtain ⟨rd, hrd⟩ := hr
            have := ih w rd hw (closed_entry hrf hrd) huw (entry_not_list hrf hrd)
            rw [msSpec, cont_of_flat rd (named_flat hwn), definitionOf_flat (named_flat (hrf.named _ rd hrd).1)] at this
            rw [if_pos rfl, Spec.matchesS, matches_ref_r hrf hrd, typeName_ref, hrd, cont_of_flat _ (named_flat hwn),
              definitionOf_entry hrd]
            exact this
          | false =>
            obtain ⟨hle, hc⟩ := names_le hwf hrf ih hw hr huw hur hf h1 h2 h3
            rw [if_neg Bool.false_ne_true]
            refine Le.trans (ite_le hle r) ?_
            cases hm : Spec.matchesS wenv renv w r with
            | false => exact Le.refl
            | true => rw [hc hm]; exact Le.refl

theorem mt_le (g : Nat) (w r : Schema) (hw : MClosed wenv false w) (hr : MClosed renv true r) :
    Le (matchTypes g wenv renv w r) (.ok (Spec.matchesS wenv renv w r)) :=
  mt_le_of hwf hrf (ms_le hwf hrf g) w r hw hr

end

theorem fm_le (mt : Schema → Schema → R Bool) (P : Schema → Bool) (w : Schema) :
    ∀ l : List Schema, (∀ b ∈ l, Le (mt w b) (.ok (P b))) → Le (firstMatchWith mt w l) (.ok (l.find? P))
  | [], _ => Le.refl
  | b :: rest, h => by
    refine Le.trans (Le.bind (h b List.mem_cons_self) fun _ _ => Le.refl) ?_
    show Le (if P b = true then _ else _) _
    rw [List.find?]
    cases P b
    · exact fm_le mt P w rest fun c hc => h c (List.mem_cons_of_mem _ hc)
    · exact Le.refl

/-- the two tests behind the rank of `_reader_branches` -/
def kindEq (wenv renv : Env) (w b : Schema) : Bool := (definitionOf renv b).typeName == (definitionOf wenv w).typeName
def nameEq (wenv renv : Env) (w b : Schema) : Bool :=
  (definitionOf wenv w).defName?.isSome && (definitionOf renv b).defName? == (definitionOf wenv w).defName?

theorem rank_cases (wenv renv : Env) (w b : Schema) :
    (branchRank wenv renv w b == 0) = (kindEq wenv renv w b && nameEq wenv renv w b) ∧
    (branchRank wenv renv w b == 1) = (kindEq wenv renv w b && !nameEq wenv renv w b) ∧
    (branchRank wenv renv w b == 2) = !kindEq wenv renv w b := by
  unfold branchRank kindEq nameEq
  cases h1 : ((definitionOf renv b).typeName == (definitionOf wenv w).typeName) <;>
    cases h2 : ((definitionOf wenv w).defName?.isSome && (definitionOf renv b).defName? == (definitionOf wenv w).defName?) <;>
    simp [bne, h1, h2]

theorem pickBranch_or {wenv renv : Env} {w : Schema} {rs : List Schema} :
    Spec.pickBranch wenv renv w rs =
      (rs.find? fun b => Spec.fullNameEq wenv renv w b && Spec.sameType wenv renv w b).or
        ((rs.find? (Spec.sameType wenv renv w)).or (rs.find? (Spec.matchesS wenv renv w))) := by
  unfold Spec.pickBranch
  cases rs.find? (fun b => Spec.fullNameEq wenv renv w b && Spec.sameType wenv renv w b) with
  | some _ => rfl
  | none => cases rs.find? (Spec.sameType wenv renv w) <;> rfl

/-- "same type" (`matchesX true`) is: same kind, and matching -/
theorem same_eq_core {wenv renv : Env} {wd bd : Schema} (hw : flat wd = true) (hb : flat bd = true) :
    Spec.matchesX true wenv renv wd bd = ((bd.typeName == wd.typeName) && Spec.matchesX false wenv renv wd bd) := by
  cases hf : fallPair wd bd with
  | false =>
    cases wd <;> first | exact Bool.noConfusion hw | (cases bd <;> first | exact Bool.noConfusion hb | exact Bool.noConfusion hf | rfl)
  | true =>
    cases h1 : (wd.isNamedDef && bd.isNamedDef) with
    | true =>
      obtain ⟨h, h'⟩ := Bool.and_eq_true_iff.1 h1
      rw [spec_defs true h h', spec_defs false h h', namedDecision, BEq.comm (a := bd.typeName)]
      cases (wd.typeName == bd.typeName) <;> rfl
    | false =>
      rw [flat_table true hw hb hf h1, flat_table false hw hb hf h1, BEq.comm (a := bd.typeName)]
      cases (wd.typeName == bd.typeName) <;> rfl

theorem mem_readerBranches {wenv renv : Env} {w b : Schema} {rs : List Schema} (h : b ∈ readerBranches wenv renv w rs) : b ∈ rs := by
  simp only [readerBranches, List.mem_append, List.mem_filter] at h
  rcases h with (h | h) | h <;> exact h.1

section
variable {wenv renv : Env} (hwf : EnvWF wenv) (hrf : EnvWF renv)
include hwf hrf

theorem same_eq {w b : Schema} (hw : MClosed wenv false w) (hb : MClosed renv true b) (huw : isList w = false) (hub : isList b = false) :
    Spec.sameType wenv renv w b = (kindEq wenv renv w b && Spec.matchesS wenv renv w b) := by
  have hwd := definitionOf_deref hw
  have hbd := definitionOf_deref hb
  unfold Spec.sameType Spec.matchesS kindEq
  rw [matches_deref_w hwf hwd, matches_deref_r hrf hbd, matches_deref_w hwf hwd, matches_deref_r hrf hbd]
  exact same_eq_core (deref_flat hwf hwd huw) (deref_flat hrf hbd hub)

theorem pick_eq (w : Schema) (rs : List Schema) (hw : MClosed wenv false w) (huw : isList w = false)
    (hrs : ∀ b ∈ rs, MClosed renv true b ∧ isList b = false) :
    (readerBranches wenv renv w rs).find? (Spec.matchesS wenv renv w) = Spec.pickBranch wenv renv w rs := by
  have e0 : rs.find? (fun b => Spec.fullNameEq wenv renv w b && Spec.sameType wenv renv w b) =
      rs.find? fun b => nameEq wenv renv w b && (kindEq wenv renv w b && Spec.matchesS wenv renv w b) :=
    List.find_congr fun b hb => by
      rw [same_eq hwf hrf hw (hrs b hb).1 huw (hrs b hb).2, Spec.fullNameEq, definitionOf_deref hw,
        definitionOf_deref (hrs b hb).1, nameEq]
  have e1 : rs.find? (Spec.sameType wenv renv w) = rs.find? fun b => kindEq wenv renv w b && Spec.matchesS wenv renv w b :=
    List.find_congr fun b hb => same_eq hwf hrf hw (hrs b hb).1 huw (hrs b hb).2
  rw [pickBranch_or, e0, e1, ← List.find_ranked]
  unfold readerBranches
  simp only [(rank_cases wenv renv w _).1, (rank_cases wenv renv w _).2.1, (rank_cases wenv renv w _).2.2]

theorem pick_le (f : Nat) (w : Schema) (rs : List Schema) (hw : MClosed wenv false w) (huw : isList w = false)
    (hrs : ∀ b ∈ rs, MClosed renv true b ∧ isList b = false) :
    Le (firstMatchWith (matchTypes f wenv renv) w (readerBranches wenv renv w rs)) (.ok (Spec.pickBranch wenv renv w rs)) := by
  rw [← pick_eq hwf hrf w rs hw huw hrs]
  exact fm_le _ _ w _ fun b hb => mt_le hwf hrf f w b hw (hrs b (mem_readerBranches hb)).1

end

end ResolveMatch
