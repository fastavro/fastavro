/-
  Proofs/JsonDoc.lean — what the read-side theorems ask of a JSON document: the writer's shape for its schema (`Fits`,
  with `FieldVal` / `absentWrap` for fields absent from the text) and the model's iteration bound (`Small`).
  `JsonBack.spec_read` proves `Fits` of every specification encoding (`JMDec.spec_fits` is that half of it).
-/
import Proofs.JsonGrammar

namespace JMDec
open JM Binary Json JMProofs

/-- the JSON value the function-level reader decodes for an absent field of type `t` with default `dv`
    (`Json.absentField`): the default, wrapped as a value of the first branch when `t` is a union -/
def absentWrap (env : Env) (t : Schema) (dv : Val) : Val :=
  match unwrapRef env t with
  | .union (b :: _) => if isNullBranch env b then dv else .dict [(.str (label b), dv)]
  | _ => dv

/-- the JSON value the function-level reader decodes for field `f` of the object `kv`.  Last clause: for a union whose first
    branch is null the default has to be null, as the specification requires of a default -/
def FieldVal (env : Env) (kv : List (Val × Val)) (f : Field) (x : Val) : Prop :=
  dictGetV kv f.name = some x ∨
  (dictGetV kv f.name = none ∧ ∃ dv, f.default = some dv ∧ x = absentWrap env f.type dv ∧
    (∀ b rest, unwrapRef env f.type = .union (b :: rest) → isNullBranch env b = true → dv = .none))

inductive Small : Val → Prop
  | dict (kv : List (Val × Val)) : kv.length < DFUEL → (∀ p ∈ kv, Small p.2) → Small (.dict kv)
  | list (xs : List Val) : xs.length < DFUEL → (∀ x ∈ xs, Small x) → Small (.list xs)
  | leaf (v : Val) : (∀ kv, v ≠ .dict kv) → (∀ xs, v ≠ .list xs) → Small v

theorem Small.of_list {xs : List Val} (h : Small (.list xs)) : xs.length < DFUEL ∧ ∀ x ∈ xs, Small x := by
  cases h with
  | list _ h1 h2 => exact ⟨h1, h2⟩
  | leaf _ _ h => exact absurd rfl (h xs)

theorem Small.of_dict {kv : List (Val × Val)} (h : Small (.dict kv)) : kv.length < DFUEL ∧ ∀ p ∈ kv, Small p.2 := by
  cases h with
  | dict _ h1 h2 => exact ⟨h1, h2⟩
  | leaf _ h _ => exact absurd rfl (h kv)

/-- what the read side needs of the JSON value beyond `Json.decode` succeeding on it, all of it true of what the writer
    produces for the schema.  Nothing is asked at fixed and enum: `decode` succeeds on strings only.  The hypotheses on the
    document, `KeysOk` and `Small`, do not reach into a default, so they are asked here of what is read for an absent field -/
def Fits (env : Env) : Nat → Schema → Val → Prop
  | 0, _, _ => False
  | fuel+1, s, j =>
    match s with
    | .prim .null _ _ => j = .none
    | .prim _ _ _ => ∀ kv, j ≠ .dict kv
    | .fixed _ _ _ _ => True
    | .enum _ _ _ _ => True
    | .array items => ∀ xs, j = .list xs → ∀ x ∈ xs, Fits env fuel items x
    | .map values => ∀ kv, j = .dict kv → ∀ p ∈ kv, Fits env fuel values p.2
    | .union bs =>
      (j = .none → ∀ i, indexOf? (bs.map label) "null" = some i → bs[i]? = bs.find? (isNullBranch env)) ∧
      (∀ b, j = .none → bs.find? (isNullBranch env) = some b → Fits env fuel b .none) ∧
      (∀ l x b, j = .dict [(.str l, x)] → findLabel env bs l = some b → Fits env fuel b x)
    | .record _ fields _ =>
      ∀ kv, j = .dict kv → ∀ f ∈ fields, ∃ x, FieldVal env kv f x ∧ Fits env fuel f.type x ∧
        (dictGetV kv f.name = none → KeysOk x ∧ Small x)
    | .ref n => ∀ s', env.get? n = some s' → Fits env fuel s' j

end JMDec
