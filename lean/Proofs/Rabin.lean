/-
  Proofs/Rabin.lean — C14: the Python table-driven loop on unbounded ints equals the specification's
  64-bit fingerprint, which equals the bit-serial CRC (GF(2)-linearity of the step); hex output.
-/
import Model.Rabin
import Spec.Rabin

namespace RabinProofs
open Spec

theorem step_xor (a b : BitVec 64) : bitStep (a ^^^ b) = bitStep a ^^^ bitStep b := by
  unfold bitStep
  simp only [BitVec.ushiftRight_xor_distrib, BitVec.getLsbD_xor]
  cases a.getLsbD 0 <;> cases b.getLsbD 0 <;> simp
  · ac_rfl
  · ac_rfl
  · rw [show a >>> 1 ^^^ P64 ^^^ (b >>> 1 ^^^ P64) = (a >>> 1 ^^^ b >>> 1) ^^^ (P64 ^^^ P64) by ac_rfl]
    simp

theorem stepN_xor (n : Nat) (a b : BitVec 64) : bitStepN n (a ^^^ b) = bitStepN n a ^^^ bitStepN n b := by
  induction n generalizing a b with
  | zero => rfl
  | succ n ih => simp [bitStepN, step_xor, ih]

theorem stepN_shift (k : Nat) (x : BitVec 64) (h : ∀ i, i < k → x.getLsbD i = false) :
    bitStepN k x = x >>> k := by
  induction k generalizing x with
  | zero => simp [bitStepN]
  | succ k ih =>
    have h0 : x.getLsbD 0 = false := h 0 (by omega)
    have : bitStep x = x >>> 1 := by unfold bitStep; rw [h0]; simp
    rw [bitStepN, this, ih]
    · rw [← BitVec.shiftRight_add, Nat.add_comm]
    · intro i hi; rw [BitVec.getLsbD_ushiftRight]; exact h (1+i) (by omega)

/-- Why one table lookup does eight bit steps: `r ^^^ b` is the xor of its part with zero low byte and its low byte;
    on the first, eight steps only shift (`stepN_shift`), giving `r >>> 8` as `b` has no bits above the low byte; eight
    steps on the second are the table entry; `stepN_xor` combines the two. -/
theorem table_step (r b : BitVec 64) (hb : ∀ i, 8 ≤ i → b.getLsbD i = false) :
    bitStepN 8 (r ^^^ b) = (r >>> 8) ^^^ bitStepN 8 ((r ^^^ b) &&& 0xFF#64) := by
  have split : r ^^^ b = ((r ^^^ b) &&& ~~~0xFF#64) ^^^ ((r ^^^ b) &&& 0xFF#64) := by
    ext i hi
    simp only [BitVec.getElem_xor, BitVec.getElem_and, BitVec.getElem_not]
    cases (r[i] ^^ b[i]) <;> simp
  conv => lhs; rw [split, stepN_xor]
  congr 1
  rw [stepN_shift]
  · ext i hi
    simp only [BitVec.getElem_ushiftRight, BitVec.getLsbD_and, BitVec.getLsbD_xor, BitVec.getLsbD_not]
    have : b.getLsbD (8 + i) = false := hb _ (by omega)
    have h2 : (0xFF#64).getLsbD (8 + i) = false := by
      have : (0xFF#64) = BitVec.ofNat 64 (2^8 - 1) := rfl
      rw [this, BitVec.getLsbD_ofNat, Nat.testBit_two_pow_sub_one]; simp
    simp [this, h2]
    intro hr
    exact Nat.lt_of_not_le (fun hge => by
      have := BitVec.getLsbD_of_ge r (8 + i) hge
      simp [this] at hr)
  · intro i hi
    simp only [BitVec.getLsbD_and, BitVec.getLsbD_not]
    have : (0xFF#64).getLsbD i = true := by
      have : i = 0 ∨ i = 1 ∨ i = 2 ∨ i = 3 ∨ i = 4 ∨ i = 5 ∨ i = 6 ∨ i = 7 := by omega
      rcases this with h|h|h|h|h|h|h|h <;> subst h <;> decide
    simp [this]

theorem byteBV_high (b : UInt8) : ∀ i, 8 ≤ i → (byteBV b).getLsbD i = false := by
  intro i hi
  unfold byteBV
  rw [BitVec.getLsbD_ofNat]
  have : b.toNat < 2 ^ 8 := by have := b.toNat_lt; omega
  have : b.toNat.testBit i = false := Nat.testBit_lt_two_pow (Nat.lt_of_lt_of_le this (Nat.pow_le_pow_right (by omega) hi))
  simp [this]

theorem tblStep_eq (x : BitVec 64) : Rabin.tblStep x.toNat = (bitStep x).toNat := by
  have hP : Rabin.EMPTY64 = P64.toNat := rfl
  have h0 : x.getLsbD 0 = decide (x.toNat % 2 = 1) := by
    rw [BitVec.getLsbD, Nat.testBit_zero]
  unfold Rabin.tblStep bitStep
  rw [BitVec.toNat_xor, BitVec.toNat_ushiftRight, h0, hP]
  by_cases h : x.toNat % 2 = 1 <;> simp [h]

theorem tableEntry_eq (x : BitVec 64) : Rabin.tableEntry x.toNat = (bitStepN 8 x).toNat := by
  simp only [Rabin.tableEntry, tblStep_eq]; rfl

theorem table_agrees (i : Nat) (hi : i < 256) : Rabin.fpTable.getD i 0 = (tableEntry i).toNat := by
  have hx : (BitVec.ofNat 64 i).toNat = i := by
    rw [BitVec.toNat_ofNat, Nat.mod_eq_of_lt (by omega)]
  rw [tableEntry, ← tableEntry_eq, hx]
  simp [Rabin.fpTable, List.getD_eq_getElem?_getD, hi]

theorem step_agrees (r : BitVec 64) (b : UInt8) :
    Rabin.step r.toNat b = ((r >>> 8) ^^^ tableEntry (((r ^^^ byteBV b) &&& 0xFF#64).toNat)).toNat := by
  unfold Rabin.step
  have hidx : ((r ^^^ byteBV b) &&& 0xFF#64).toNat = (r.toNat ^^^ b.toNat) &&& 0xFF := by
    simp only [BitVec.toNat_and, BitVec.toNat_xor, byteBV, BitVec.toNat_ofNat]
    have : b.toNat % 2 ^ 64 = b.toNat := Nat.mod_eq_of_lt (by have := b.toNat_lt; omega)
    rw [this]
  have hlt : (r.toNat ^^^ b.toNat) &&& 0xFF < 256 := by
    have : (r.toNat ^^^ b.toNat) &&& 0xFF ≤ 0xFF := Nat.and_le_right
    omega
  rw [hidx, table_agrees _ hlt]
  simp [BitVec.toNat_xor, BitVec.toNat_ushiftRight]

theorem rabin_eq_spec (bs : Bytes) : Rabin.rabin bs = (fingerprint64 bs).toNat := by
  unfold Rabin.rabin fingerprint64
  have h0 : Rabin.EMPTY64 = P64.toNat := by decide
  rw [h0]
  generalize P64 = init
  induction bs generalizing init with
  | nil => rfl
  | cons b bs ih =>
    simp only [List.foldl_cons]
    rw [step_agrees init b, ih]

def unhexChar (c : Char) : Option Nat :=
  if '0' ≤ c ∧ c ≤ '9' then some (c.toNat - 48) else if 'a' ≤ c ∧ c ≤ 'f' then some (c.toNat - 87) else none

/-- reads lower-case hex, two digits per byte -/
def parseHex : List Char → Option Bytes
  | [] => some []
  | [_] => none
  | a :: b :: rest => do
    let x ← unhexChar a; let y ← unhexChar b; let r ← parseHex rest
    some (UInt8.ofNat (x * 16 + y) :: r)

theorem unhex_hexDigit : ∀ d, d < 16 → unhexChar (Rabin.hexDigit d) = some d := by decide +kernel

theorem parse_hexOfBytes (bs : Bytes) : parseHex (bs.flatMap Rabin.hexByte) = some bs := by
  induction bs with
  | nil => rfl
  | cons b bs ih =>
    have hb : b.toNat < 256 := b.toNat_lt
    have hi := unhex_hexDigit (b.toNat / 16) (by omega)
    have lo := unhex_hexDigit (b.toNat % 16) (Nat.mod_lt _ (by decide))
    have e : UInt8.ofNat (b.toNat / 16 * 16 + b.toNat % 16) = b := by rw [Nat.div_add_mod']; simp
    simp only [List.flatMap_cons, Rabin.hexByte, List.cons_append, List.nil_append, parseHex, hi, lo, ih,
      Option.bind_eq_bind, Option.bind_some, e]

end RabinProofs
