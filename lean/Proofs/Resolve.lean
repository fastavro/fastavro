/-
  Proofs/Resolve.lean — C08, the single steps: the promotion table and the conversions, `match_types` on two names that
  are not both table entries, the writer-field loop of `read_record` and its field lookup.
-/
import Model.Resolve
import Spec.Resolve
import Proofs.List

namespace RejectLike
theorem ok_bind {α β} (a : α) (f : α → R β) : ((Except.ok a : R α) >>= f) = f a := rfl
theorem error_bind {α β} (e : Err) (f : α → R β) : ((Except.error e : R α) >>= f) = .error e := rfl
end RejectLike

namespace ResolveProofs
open Resolve

theorem prim_in_avro (p : Prim) : AVRO_TYPES.contains p.name = true := by cases p <;> decide

theorem prim_name_inj (a b : Prim) : (a.name == b.name) = (a == b) := by cases a <;> cases b <;> decide

/-- on the names of two primitive types `promoteOp` decides by the types: the 64 cases of `promote_eq` compare no names -/
theorem promoteOp_prim (wp rp : Prim) : promoteOp wp.name rp.name =
    if (wp == .int || wp == .long) && (rp == .float || rp == .double) then "float"
    else if wp == .string && rp == .bytes then "encode" else if wp == .bytes && rp == .string then "decode" else "id" := by
  simp only [promoteOp, ← prim_name_inj]; rfl

theorem promote_eq (wp rp : Prim) (v : Val) : maybePromote v wp.name rp.name = Spec.promote wp rp v := by
  unfold maybePromote; rw [promoteOp_prim]
  cases wp <;> cases rp <;> rfl

theorem promotes_eq (wp rp : Prim) : promotes wp.name rp.name = Spec.promotable wp rp := by
  cases wp <;> cases rp <;> decide

/-- a primitive name is never the name of a named type in a table built by `parse_schema`
    (names there are those of record / enum / fixed definitions) -/
def NoPrimKeys (env : Env) : Prop := ∀ p : Prim, env.get? p.name = none

theorem names_nolookup (ms : Schema → Schema → R Schema) {wenv renv : Env} {a b : String}
    (h : wenv.get? a = none ∨ renv.get? b = none) :
    matchNamesWith ms wenv renv a b = .ok (a == b || promotes a b) := by
  unfold matchNamesWith
  by_cases h1 : (a == b && AVRO_TYPES.contains a) = true
  · rw [if_pos h1, (Bool.and_eq_true_iff.1 h1).1]; rfl
  · rw [if_neg h1]
    by_cases h2 : promotes a b = true
    · rw [if_pos h2, h2, Bool.or_true]; rfl
    · rw [if_neg h2, Bool.eq_false_iff.2 h2, Bool.or_false]
      rcases h with h | h
      · rw [h]; rfl
      · rw [h]; cases wenv.get? a <;> rfl

theorem matchNames_prim (ms : Schema → Schema → R Schema) (wenv renv : Env) (wp rp : Prim)
    (hw : NoPrimKeys wenv) :
    matchNamesWith ms wenv renv wp.name rp.name = .ok (wp == rp || Spec.promotable wp rp) := by
  rw [names_nolookup ms (.inl (hw wp)), prim_name_inj, promotes_eq]

theorem matchSchemas_prim (fuel : Nat) (wenv renv : Env) (wp rp : Prim) (hw : NoPrimKeys wenv) :
    matchSchemas (fuel+1) wenv renv (.prim wp false none) (.prim rp false none) =
      if wp == rp || Spec.promotable wp rp then .ok (.prim rp false none) else .error .resolution := by
  simp only [matchSchemas, Schema.isNamedDef, Bool.and_false, Bool.false_eq_true, if_false,
    Schema.typeName, prim_in_avro, Bool.not_true, matchNames_prim _ wenv renv wp rp hw]
  cases (wp == rp || Spec.promotable wp rp) <;> rfl

theorem fields_eq (rd : Schema → Schema → Bytes → R (Val × Bytes)) (sk : Schema → Bytes → R Bytes) (rfs : List Field)
    (hfind : ∀ n, findReaderField rfs n = Spec.readerFieldFor rfs n) (wfs : List Field) :
    ∀ bs acc, readFieldsRWith rd sk rfs wfs bs acc = Spec.fieldsWith rd sk rfs wfs bs acc := by
  induction wfs with
  | nil => intro bs acc; rfl
  | cons f rest ih =>
    intro bs acc
    simp only [readFieldsRWith, Spec.fieldsWith, hfind f.name, ih]
    rfl

def FieldsUnambiguous (rfs : List Field) : Prop :=
  (∀ a ∈ rfs, ∀ b ∈ rfs, a.name = b.name → a = b) ∧
  (∀ n, ∀ a ∈ rfs, ∀ b ∈ rfs, a.aliases.contains n = true → b.aliases.contains n = true → a = b)

/-- `read_record` looks fields up in dicts built in order, so the last entry of a name or alias wins; the specification
    takes the first -/
theorem findReaderField_eq (rfs : List Field) (h : FieldsUnambiguous rfs) (n : String) :
    findReaderField rfs n = Spec.readerFieldFor rfs n := by
  unfold findReaderField Spec.readerFieldFor
  rw [List.find_reverse_unique (fun f => f.name == n) rfs
        (fun a ha b hb pa pb => h.1 a ha b hb (by simp only [beq_iff_eq] at pa pb; rw [pa, pb])),
      List.find_reverse_unique (fun f => f.aliases.contains n) rfs (fun a ha b hb pa pb => h.2 n a ha b hb pa pb)]
  cases List.find? (fun f => f.name == n) rfs <;> rfl

theorem readerFieldFor_mem {rfs : List Field} {x : String} {rf : Field} (h : Spec.readerFieldFor rfs x = some rf) : rf ∈ rfs := by
  unfold Spec.readerFieldFor at h
  split at h
  · rename_i f hf; cases h; exact List.mem_of_find?_eq_some hf
  · exact List.mem_of_find?_eq_some h

end ResolveProofs
