/-
  Proofs/Canon.lean — C13/C11: whatever `parse_schema` accepts, the canonical form of the parsed schema is the
  specification's transformation of the *raw* schema (`parse_pcf`: each case of `Parse.parse_ok` meets one equation of
  Proofs/Pcf.lean).
-/
import Model.Canon
import Proofs.Parse
import Proofs.Pcf

namespace CanonProofs
open Parse Spec R

/-! hand-stated equations of `Canon.canon` (the generated ones are expensive to derive) -/
theorem canon_prim (p d l) : Canon.canon (.prim p d l) = Canon.q p.name := by rfl
theorem canon_ref (n) : Canon.canon (.ref n) = Canon.q n := by rfl
theorem canon_union (bs) : Canon.canon (.union bs) = "[" ++ Canon.canonList bs ++ "]" := by rfl
theorem canon_array (i) : Canon.canon (.array i) = "{\"type\":\"array\",\"items\":" ++ Canon.canon i ++ "}" := by rfl
theorem canon_map (i) : Canon.canon (.map i) = "{\"type\":\"map\",\"values\":" ++ Canon.canon i ++ "}" := by rfl
theorem canon_enum (n sy d a) : Canon.canon (.enum n sy d a) =
    "{\"name\":" ++ Canon.q n ++ ",\"type\":\"enum\",\"symbols\":[" ++ ",".intercalate (sy.map Canon.q) ++ "]}" := by rfl
theorem canon_fixed (n sz l a) : Canon.canon (.fixed n sz l a) =
    "{\"name\":" ++ Canon.q n ++ ",\"type\":\"fixed\",\"size\":" ++ toString sz ++ "}" := by rfl
theorem canon_record (a b c) : Canon.canon (.record a b c) =
    "{\"name\":" ++ Canon.q a ++ ",\"type\":\"record\",\"fields\":[" ++ Canon.canonFields b ++ "]}" := by rfl

theorem q_eq (s : String) : Spec.q s = Canon.q s := rfl

theorem canonList_eq (bs : List Schema) : Canon.canonList bs = Spec.commaSep (bs.map Canon.canon) := by
  induction bs with
  | nil => rfl
  | cons b bs ih =>
    cases bs with
    | nil => rfl
    | cons c cs => simp only [Canon.canonList, List.map_cons, Spec.commaSep, ih]

def fieldText (f : Field) : String := "{\"name\":" ++ Canon.q f.name ++ ",\"type\":" ++ Canon.canon f.type ++ "}"

theorem canonFields_eq (fs : List Field) : Canon.canonFields fs = Spec.commaSep (fs.map fieldText) := by
  induction fs with
  | nil => rfl
  | cons f fs ih =>
    obtain ⟨n, t, d, a⟩ := f
    cases fs with
    | nil => rfl
    | cons g gs =>
      obtain ⟨n2, t2, d2, a2⟩ := g
      simp only [Canon.canonFields, List.map_cons, Spec.commaSep, fieldText, Field.name, Field.type] at ih ⊢
      rw [ih]
      have e : "}," = "}" ++ "," := by decide
      simp only [String.append_assoc, e]

/-- `schema_name` and the specification's full-name rule compute the same pair: the one decides the namespace first and
    looks for a dot afterwards, the other the other way round -/
theorem schemaName_full {kv : List (Val × Val)} {ns : String} {r : String × String}
    (h : schemaName kv ns = .ok r) : fullNameOf kv ns = some r := by
  unfold schemaName at h
  unfold fullNameOf
  split at h <;> try cases h
  rename_i name hn
  rw [hn]
  dsimp only at h ⊢
  split at h <;> try cases h
  rename_i nsv hv
  have key : (if name.contains '.' then some (".".intercalate (name.splitOn ".").dropLast, name)
      else if nsv != "" then some (nsv, nsv ++ "." ++ name) else some ("", name)) = some r := by
    split at h
    · cases h; exact if_pos ‹_›
    · rw [if_neg ‹_›]; split at h <;> cases h
      · exact if_pos ‹_›
      · exact if_neg ‹_›
  split at hv
  · rename_i heq; rw [heq]; cases hv; exact key   -- `namespace` a string
  · rename_i heq; rw [heq]; cases hv; exact key   -- `None`
  · cases hv                                      -- anything else: an error in the model (fastavro goes on with the value)
  · rename_i heq; rw [heq]; cases hv; exact key   -- absent

theorem toString_of_not_neg (n : Int) (h : ¬ n < 0) : toString n = toString n.toNat := by
  cases n with
  | ofNat k => rfl
  | negSucc k => exact absurd (Int.negSucc_lt_zero k) h

theorem symbols_map (symsL : List Val)
    (hall : symsL.all symValOk = true) :
    Spec.mapM? Spec.symText symsL = some ((symNames symsL).map Canon.q) := by
  induction symsL with
  | nil => rfl
  | cons x xs ih =>
    simp only [List.all_cons, Bool.and_eq_true] at hall
    cases x <;> simp only [symValOk, Bool.false_eq_true, false_and] at hall
    exact mapM?_cons rfl (ih hall.2)

theorem enumSymbols_ok {kv : List (Val × Val)} {syms : List String} {d : Option Val} (h : enumSymbols kv = .ok (syms, d)) :
    ∃ symsL, dictGetV kv "symbols" = some (.list symsL) ∧
      Spec.mapM? Spec.symText symsL = some (syms.map Canon.q) := by
  simp only [enumSymbols, bind_ok_iff] at h
  obtain ⟨sv, h1, h2⟩ := h
  cases sv <;> simp only [reduceCtorEq, ite_error_ok_iff, Bool.not_eq_true, Bool.not_eq_false'] at h2
  rename_i symsL
  obtain ⟨hall, -, h2⟩ := h2
  refine ⟨symsL, getKey_ok h1, ?_⟩
  split at h2 <;> simp only [ite_error_ok_iff, Except.ok.injEq, Prod.mk.injEq, reduceCtorEq] at h2
  · obtain ⟨-, rfl, -⟩ := h2; exact symbols_map symsL hall
  · obtain ⟨rfl, -⟩ := h2; exact symbols_map symsL hall

theorem fixedSize_ok {kv : List (Val × Val)} {n : Nat} (h : fixedSize kv = .ok n) :
    ∃ z : Int, dictGetV kv "size" = some (.int z) ∧ toString z = toString n := by
  unfold fixedSize at h
  split at h <;> simp only [ite_error_ok_iff, Except.ok.injEq, reduceCtorEq] at h
  exact ⟨_, ‹_›, h.2 ▸ toString_of_not_neg _ h.1⟩

theorem parse_pcf : ∀ fuel {raw ns st dflt ign s st'}, parse fuel raw ns st dflt ign = .ok (s, st') →
    pcf fuel raw ns = some (Canon.canon s)
  | 0, _, _, _, _, _, _, _, h => by cases h
  | fuel+1, raw, ns, st, dflt, ign, s, st', h => by
    rcases parse_ok h with ⟨name, rfl, h'⟩ | ⟨xs, bs, rfl, h', rfl⟩ |
      ⟨kv, ty, lt, rfl, hty, _, ⟨rfl, h'⟩ | ⟨rfl, h'⟩ | ⟨rfl, h'⟩ | ⟨rfl, h'⟩ | ⟨rfl, h'⟩ | h'⟩
    · rw [pcf_str]
      rcases (parseName_ok h').2 with ⟨p, hp, rfl⟩ | ⟨hp, rfl, _⟩
      · rw [← Prim.ofName_some hp, if_pos (p.name_mem_PRIMS), canon_prim, q_eq]
      · rw [if_neg (by rw [Prim.ofName_none hp]; nofun), canon_ref, q_eq]
    · have : mapM? (fun b => pcf fuel b ns) xs = some (bs.map Canon.canon) :=
        parseListWith_induct (motive := fun xs _ bs _ => mapM? _ xs = some (bs.map Canon.canon)) (fun _ => rfl)
          (fun h1 ih => mapM?_cons (parse_pcf fuel h1) ih) h'
      rw [pcf_list, this, canon_union, canonList_eq]; rfl
    · obtain ⟨items, s1, hi, h1, rfl⟩ := parseArray_ok h'
      rw [pcf_array (dictType_ok hty) (getKey_ok hi), parse_pcf fuel h1, canon_array]; rfl
    · obtain ⟨values, s1, hv, h1, rfl⟩ := parseMap_ok h'
      rw [pcf_map (dictType_ok hty) (getKey_ok hv), parse_pcf fuel h1, canon_map]; rfl
    · obtain ⟨ns', full, syms, edef, hn, _, hs, rfl, _⟩ := parseEnum_ok h'
      obtain ⟨symsL, hk, hm⟩ := enumSymbols_ok hs
      rw [pcf_enum (dictType_ok hty) (schemaName_full hn) hk, hm, canon_enum, ← commaSep_eq]; rfl
    · obtain ⟨ns', full, size, hn, _, hz, rfl, _⟩ := parseFixed_ok h'
      obtain ⟨z, hz, hzs⟩ := fixedSize_ok hz
      rw [pcf_fixed (dictType_ok hty) (schemaName_full hn) hz, hzs, canon_fixed]; rfl
    · obtain ⟨ns', full, fs, st2, hn, _, hf, rfl, _⟩ := parseRecord_ok h'
      have : mapM? (fieldTextWith fun ty => pcf fuel ty ns') (dictListOr kv "fields") = some (fs.map fieldText) :=
        parseFieldsWith_induct (motive := fun xs _ fs _ => mapM? _ xs = some (fs.map fieldText)) (fun _ => rfl)
          (fun hh h1 ih =>
            have ⟨hn', ht', _⟩ := fieldHeader_ok hh
            mapM?_cons (fieldTextWith_dict hn' ht' (parse_pcf fuel h1)) ih) hf
      rw [pcf_record (dictType_ok hty) (schemaName_full hn), this, canon_record, canonFields_eq]; rfl
    · obtain ⟨_, p, hp, rfl⟩ := parsePrimDict_ok h'
      rw [pcf_prim (dictType_ok hty) (Prim.ofName_some hp ▸ p.name_mem_PRIMS), canon_prim, Prim.ofName_some hp, q_eq]

theorem parseTop_pcf {fuel : Nat} {raw : Val} {env env' : Env} {ign : Bool} {s : Schema}
    (h : parseTop fuel raw env ign = .ok (s, env')) :
    pcf (fuel+1) raw "" = some (Canon.canon s) := by
  rcases parseTop_ok h with ⟨xs, ss, rfl, hgo, rfl⟩ | ⟨_, st', hp, _⟩
  · have : mapM? (fun b => pcf fuel b "") xs = some (ss.map Canon.canon) :=
      parseTop_go_induct (motive := fun xs _ ss _ => mapM? _ xs = some (ss.map Canon.canon)) (fun _ => rfl)
        (fun h1 ih => mapM?_cons (parse_pcf fuel h1) ih) hgo
    rw [pcf_list, this, canon_union, canonList_eq]; rfl
  · exact (pcf_mono fuel raw "").some (parse_pcf fuel hp)

end CanonProofs
