/-
  Proofs/Json.lean — C15: the JSON writer model against the specification's JSON encoding, and the
  bytes ↔ string-of-code-points round trip.
-/
import Model.Json
import Spec.JsonEnc
import Proofs.R

namespace RL
theorem ok_bind {α β} (a : α) (f : α → R β) : ((Except.ok a : R α) >>= f) = f a := rfl
end RL

namespace JsonProofs
open Binary Json R

theorem codePoints_eq (b : Bytes) : Spec.codePoints b = latin1Dec b := rfl

theorem char_roundtrip (x : UInt8) : (Char.ofNat x.toNat).toNat = x.toNat := by
  have h : x.toNat < 256 := x.toNat_lt
  unfold Char.ofNat
  have hv : x.toNat.isValidChar := by
    left; omega
  simp only [hv, dite_true]
  rfl

theorem latin1_roundtrip (b : Bytes) : latin1Enc (latin1Dec b) = some b := by
  unfold latin1Enc latin1Dec
  rw [String.toList_ofList]
  induction b with
  | nil => rfl
  | cons x xs ih =>
    have h : x.toNat < 256 := x.toNat_lt
    simp only [List.map_cons, List.mapM_cons, char_roundtrip, h, if_true, ih, Option.bind_eq_bind,
      Option.bind_some, Option.pure_def]
    simp

theorem label_eq (b : Schema) : label b = Spec.jsonBranchName b := by cases b <;> rfl
theorem isNull_eq (env : Env) (b : Schema) : isNullBranch env b = Spec.isNull env b := rfl

theorem jItems_mono {f g : Val → Option Val} (hfg : ∀ x, Covers (f x) (g x)) :
    ∀ xs, Covers (Spec.jItemsM f xs) (Spec.jItemsM g xs)
  | [] => .refl
  | x :: xs => (hfg x).bind fun _ => (jItems_mono hfg xs).bind fun _ => .refl

theorem items_eq {f : Val → Option Val} {g : Val → R Val} (hfg : ∀ x, Covers (f x) (g x)) :
    ∀ xs, Covers (Spec.jItemsM f xs) (encItemsWith g xs)
  | [] => .of_some _
  | x :: xs => (hfg x).bind fun _ => (items_eq hfg xs).bind fun _ => .of_some _

theorem jFields_mono {f g : Schema → Val → Option Val} (hfg : ∀ t x, Covers (f t x) (g t x)) (kv : List (Val × Val)) :
    ∀ fs, Covers (Spec.jFieldsM f fs kv) (Spec.jFieldsM g fs kv)
  | [] => .refl
  | fld :: fs => (hfg fld.type _).bind fun _ => (jFields_mono hfg kv fs).bind fun _ => .refl

theorem jEntries_mono {kok kok' : String → Bool} (hk : ∀ s, kok s = true → kok' s = true) {f g : Val → Option Val}
    (hfg : ∀ x, Covers (f x) (g x)) : ∀ kv, Covers (Spec.jEntriesM kok f kv) (Spec.jEntriesM kok' g kv)
  | [] => .refl
  | (k, x) :: rest => by
    cases k <;> try exact .of_none
    rename_i s
    cases hs : kok s <;> simp only [Spec.jEntriesM, hs, hk s, Bool.not_true, Bool.not_false, Bool.false_eq_true, if_true, if_false]
    · exact .of_none
    · exact (hfg x).bind fun _ => (jEntries_mono hk hfg rest).bind fun _ => .refl

theorem entries_eq {f : Val → Option Val} {g : Val → R Val} (hfg : ∀ x, Covers (f x) (g x)) :
    ∀ kv, Covers (Spec.jEntriesM (fun s => !s.isEmpty) f kv) (encEntriesWith g kv)
  | [] => .of_some _
  | (k, x) :: rest => by
    cases k <;> try exact .of_none
    rename_i s
    cases hs : s.isEmpty <;> simp only [Spec.jEntriesM, encEntriesWith, hs, Bool.not_true, Bool.not_false, Bool.false_eq_true, if_true, if_false]
    · exact (hfg x).bind fun _ => (entries_eq hfg rest).bind fun _ => .of_some _
    · exact .of_none

/-- not by `Covers.bind` like the other loops: the model has a bind of its own in front, `fieldCoerce`, which `hco` removes -/
theorem fields_eq {f : Schema → Val → Option Val} {g : Schema → Val → R Val} (hfg : ∀ t x, Covers (f t x) (g t x))
    (hco : ∀ t x y, f t x = some y → fieldCoerce t x = .ok x) (kv : List (Val × Val)) :
    ∀ fs, Covers (Spec.jFieldsM f fs kv) (encFieldsWith g fs kv)
  | [] => .of_some _
  | fld :: fs => fun out h => by
    simp only [Spec.jFieldsM, Option.bind_eq_bind, Option.bind_eq_some_iff, Option.some.injEq] at h
    obtain ⟨a, ha, b, hb, rfl⟩ := h
    simp only [encFieldsWith, hco _ _ _ ha, R.ok_bind, (hfg _ _).ok ha, (fields_eq hfg hco kv fs).ok hb]

theorem prim_eq (p : Prim) (v : Val) : Covers (Spec.jsonPrimFloats p v) (encPrim p v) := by
  intro j h
  cases p <;> cases v <;> simp only [Spec.jsonPrimFloats, Spec.jsonPrim, reduceCtorEq, Option.some.injEq] at h <;>
    subst h <;> rfl

theorem jsonPrimFloats_le (p : Prim) (v : Val) : Covers (Spec.jsonPrimFloats p v) (Spec.jsonPrim p v) := by
  intro j h
  unfold Spec.jsonPrimFloats at h
  split at h <;> first | cases h | exact h

theorem encodeWith_mono {jp jp' : Prim → Val → Option Val} {kok kok' : String → Bool}
    (hj : ∀ p v, Covers (jp p v) (jp' p v)) (hk : ∀ s, kok s = true → kok' s = true)
    (pick : Nat → List Schema → Val → Option (Nat × Val)) (env : Env) :
    ∀ fuel s v, Covers (Spec.jsonEncodeWith jp kok pick fuel env s v) (Spec.jsonEncodeWith jp' kok' pick fuel env s v)
  | 0, _, _ => .of_none
  | fuel + 1, s, v => by
    have ih := encodeWith_mono hj hk pick env fuel
    cases s with
    | prim p d lt => cases lt <;> first | exact hj p v | exact .of_none
    | fixed _ _ lt => cases lt <;> exact .refl
    | enum => exact .refl
    -- `.of_none`: a datum of the wrong shape for its schema is outside the domain (both sides compute)
    | array items => cases v <;> first | exact .of_none | exact (jItems_mono (ih items) _).omap _
    | map values => cases v <;> first | exact .of_none | exact (jEntries_mono hk (ih values) _).omap _
    | record n fields al => cases v <;> first | exact .of_none | exact (jFields_mono ih _ _).omap _
    | union bs =>
      simp only [Spec.jsonEncodeWith]
      split <;> try exact .of_none
      split <;> try exact .of_none
      exact (ih _ _).bind fun _ => .refl
    | ref n =>
      simp only [Spec.jsonEncodeWith]
      split <;> first | exact ih _ _ | exact .of_none

/-- on the core fragment a float/double-typed field holds a float, which `float(datum_value)` leaves as it is -/
theorem coerce_id {kok : String → Bool} {pick : Nat → List Schema → Val → Option (Nat × Val)} {fuel : Nat} {env : Env}
    {t : Schema} {x y : Val}
    (h : Spec.jsonEncodeWith Spec.jsonPrimFloats kok pick fuel env t x = some y) : fieldCoerce t x = .ok x := by
  cases fuel with
  | zero => cases h
  | succ fuel =>
  cases t with
  | prim p d lt =>
    cases d with
    | true => cases p <;> rfl
    | false =>
      cases lt with
      | some _ => cases h
      | none =>
        cases p <;> try rfl
        all_goals
          cases x <;> first | rfl | cases h
  | _ => rfl

theorem encode_eq_spec (env : Env) (o : WOpts) :
    ∀ fuel s v, Covers (Spec.jsonEncodeCore (fun f bs v => (choose f env o bs v).toOption) fuel env s v) (encode true fuel env o s v)
  | 0, _, _ => .of_none
  | fuel + 1, s, v => by
    have ih := encode_eq_spec env o fuel
    unfold Spec.jsonEncodeCore at ih ⊢
    cases s with
    | prim p d lt => cases lt <;> first | exact prim_eq p v | exact .of_none
    | fixed _ sz lt =>
      cases lt <;> cases v <;> try exact .of_none
      simp only [Spec.jsonEncodeWith, encode]
      split <;> first | exact .of_some _ | exact .of_none
    | enum _ syms =>
      cases v <;> try exact .of_none
      simp only [Spec.jsonEncodeWith, encode]
      split <;> first | exact .of_some _ | exact .of_none
    | array items => cases v <;> first | exact .of_none | exact (items_eq (ih items) _).map _
    | map values => cases v <;> first | exact .of_none | exact (entries_eq (ih values) _).map _
    | record n fields al => cases v <;> first | exact .of_none | exact (fields_eq ih (fun _ _ _ => coerce_id) _ _).map _
    | union bs =>
      simp only [Spec.jsonEncodeWith, encode]
      cases choose fuel env o bs v with
      | error e => exact .of_none
      | ok p =>
        cases hb : bs[p.1]? <;> simp only [Except.toOption, R.ok_bind, hb]
        · exact .of_none
        · refine (ih _ _).bind fun j => ?_
          rw [label_eq, isNull_eq]
          cases Spec.isNull env _ <;> exact .of_some _
    | ref n =>
      cases hg : env.get? n <;> simp only [Spec.jsonEncodeWith, encode, hg]
      · exact .of_none
      · exact ih _ _

end JsonProofs
