/-
  Proofs/Py.lean — Python's `int.to_bytes` / `int.from_bytes` / `int.bit_length` as modelled in Model/Py.lean:
  lengths, `from_bytes ∘ to_bytes` in both byte orders, and how `to_bytes(…, "big")` depends on its arguments.
-/
import Model.Py

namespace Py

theorem toBytesLE_length (n x : Nat) : (toBytesLE n x).length = n := by
  induction n generalizing x with
  | zero => rfl
  | succ n ih => simp [toBytesLE, ih]

theorem fromBytesLE_toBytesLE (n x : Nat) : fromBytesLE (toBytesLE n x) = x % 256 ^ n := by
  induction n generalizing x with
  | zero => simp [toBytesLE, fromBytesLE, Nat.mod_one]
  | succ n ih =>
    simp only [toBytesLE, fromBytesLE, ih]
    have h : (UInt8.ofNat (x % 256)).toNat = x % 256 := by simp
    have h2 : x % (256 ^ n * 256) = x % 256 + 256 * (x / 256 % 256 ^ n) := by
      rw [Nat.mul_comm (256 ^ n) 256, Nat.mod_mul]
    rw [h, Nat.pow_succ]
    omega

theorem two_pow_eight_mul (k : Nat) : 2 ^ (8 * k) = 256 ^ k := Nat.pow_mul 2 8 k

theorem toBytesBE_length (len n : Nat) : (toBytesBE len n).length = len := by
  induction len with
  | zero => rfl
  | succ k ih => simp [toBytesBE, ih]

theorem foldl_toBytesBE (len n acc : Nat) :
    (toBytesBE len n).foldl (fun a x => a * 256 + x.toNat) acc = acc * 256 ^ len + n % 256 ^ len := by
  induction len generalizing acc with
  | zero => simp [toBytesBE, Nat.mod_one]
  | succ k ih =>
    have hb : (UInt8.ofNat (n >>> (8 * k) % 256)).toNat = n / 256 ^ k % 256 := by
      rw [Nat.shiftRight_eq_div_pow, two_pow_eight_mul]; simp
    simp only [toBytesBE, List.foldl_cons, ih, hb]
    have h2 : n % 256 ^ (k + 1) = n % 256 ^ k + 256 ^ k * (n / 256 ^ k % 256) := by
      rw [Nat.pow_succ]; exact Nat.mod_mul
    rw [h2, Nat.pow_succ]
    generalize 256 ^ k = p
    generalize n / p % 256 = d
    generalize n % p = m
    rw [Nat.add_mul, Nat.mul_assoc, Nat.mul_comm 256 p, Nat.mul_comm d p]
    omega

theorem fromBytesBE_toBytesBE (len n : Nat) : fromBytesBE (toBytesBE len n) = n % 256 ^ len := by
  unfold fromBytesBE; rw [foldl_toBytesBE]; simp

theorem fromBytesBE_zeros (k : Nat) (b : Bytes) : fromBytesBE (List.replicate k 0 ++ b) = fromBytesBE b := by
  unfold fromBytesBE
  induction k with
  | zero => rfl
  | succ k ih => simp [List.replicate_succ, ih]

theorem toBytesBE_congr {len n m : Nat} (h : n % 256 ^ len = m % 256 ^ len) : toBytesBE len n = toBytesBE len m := by
  induction len with
  | zero => rfl
  | succ k ih =>
    have hd : ∀ x, x / 256 ^ k % 256 = x % 256 ^ (k + 1) / 256 ^ k := fun x => by
      rw [Nat.pow_succ, Nat.mod_mul_right_div_self]
    have hk : n % 256 ^ k = m % 256 ^ k := by
      have := congrArg (· % 256 ^ k) h
      simpa [Nat.pow_succ, Nat.mod_mul_right_mod] using this
    simp only [toBytesBE, Nat.shiftRight_eq_div_pow, two_pow_eight_mul, hd, h, ih hk]

theorem toBytesBE_pad (k : Nat) {r u : Nat} (h : u < 2 ^ (8 * r)) :
    toBytesBE (k + r) u = List.replicate k 0 ++ toBytesBE r u := by
  induction k with
  | zero => simp
  | succ k ih =>
    have : u / 2 ^ (8 * (k + r)) = 0 :=
      Nat.div_eq_of_lt (Nat.lt_of_lt_of_le h (Nat.pow_le_pow_right (by decide) (by omega)))
    rw [Nat.add_right_comm, toBytesBE, ih, Nat.shiftRight_eq_div_pow, this]; rfl

theorem fromBytesBESigned_toBytesBE (len m : Nat) (hl : len ≠ 0) (hm : m < 2 ^ (8 * len)) :
    fromBytesBESigned (toBytesBE len m) =
      if m < 2 ^ (8 * len - 1) then (m : Int) else (m : Int) - (2 ^ (8 * len) : Nat) := by
  have h8 : ¬ (8 * len = 0) := by omega
  simp only [fromBytesBESigned, fromBytesBE_toBytesBE, toBytesBE_length, h8, ↓reduceIte, two_pow_eight_mul,
    Nat.mod_eq_of_lt (two_pow_eight_mul len ▸ hm)]

theorem lt_two_pow_bitLength (u : Nat) : u < 2 ^ bitLength u := by
  unfold bitLength; split
  · subst_vars; decide
  · exact Nat.lt_log2_self

theorem bitLength_le {u n : Nat} (h : u < 2 ^ n) : bitLength u ≤ n := by
  unfold bitLength; split
  · omega
  · rename_i h0
    have := Nat.log2_self_le h0
    have := (Nat.pow_lt_pow_iff_right (by decide : 1 < 2)).mp (Nat.lt_of_le_of_lt this h)
    omega

end Py
