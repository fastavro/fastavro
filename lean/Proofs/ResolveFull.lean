/-
  Proofs/ResolveFull.lean — C08: the model's resolving reader (`read_data` with a reader schema) IS the
  specification reader, at every nesting depth: `readR_le`, by induction on the nesting fuel, every step a `NonFuel.Le`.
-/
import Proofs.MatchSchemas
import Proofs.RecordDefaults
import Proofs.SpecMono
import Proofs.Basic

namespace ResolveFull
open Binary Resolve ResolveProofs ResolveMatch NonFuel RejectLike

mutual
/-- `reg = false`: a writer schema (plain: no logical type; names defined);
    `reg = true`: a reader schema (definitions are the table's entries; record fields told apart by name and alias);
    both: a union is not an immediate member of a union -/
def Good (env : Env) (reg : Bool) : Schema → Prop
  | .prim _ _ lt => reg = false → lt = none
  | .fixed n s lt a => (reg = false → lt = none) ∧ (reg = true → env.get? n = some (.fixed n s lt a))
  | .enum n s d a => reg = true → env.get? n = some (.enum n s d a)
  | .ref n => ∃ d, env.get? n = some d
  | .array i => Good env reg i
  | .map v => Good env reg v
  | .union bs => GoodList env reg bs
  | .record n fs a =>
    (reg = true → env.get? n = some (.record n fs a) ∧ (fs.map Field.name).Nodup ∧ FieldsUnambiguous fs) ∧
      GoodFields env reg fs
def GoodList (env : Env) (reg : Bool) : List Schema → Prop
  | [] => True
  | s :: rest => (Good env reg s ∧ isList s = false) ∧ GoodList env reg rest
def GoodFields (env : Env) (reg : Bool) : List Field → Prop
  | [] => True
  | .mk _ t _ _ :: rest => Good env reg t ∧ GoodFields env reg rest
end

/-- every definition in the table is `Good`, for the table's side `reg`: this is what keeps `Good` across the lookup
    of a name (`good_deref`) -/
def EnvGood (env : Env) (reg : Bool) : Prop := ∀ n d, env.get? n = some d → Good env reg d

theorem goodList_mem {env : Env} {reg : Bool} : ∀ {l : List Schema}, GoodList env reg l → ∀ b ∈ l, Good env reg b ∧ isList b = false
  | s :: rest, h, b, hb => by
    rcases List.mem_cons.1 hb with h1 | h1
    · subst h1; exact h.1
    · exact goodList_mem h.2 b h1

theorem goodFields_mem {env : Env} {reg : Bool} : ∀ {l : List Field}, GoodFields env reg l → ∀ f ∈ l, Good env reg f.type
  | .mk _ t _ _ :: rest, h, b, hb => by
    rcases List.mem_cons.1 hb with h1 | h1
    · subst h1; exact h.1
    · exact goodFields_mem h.2 b h1

theorem good_closed {env : Env} {reg : Bool} : ∀ {s : Schema}, Good env reg s → MClosed env reg s
  | .prim .., _ => trivial
  | .fixed .., h => fun hr => h.2 hr
  | .enum .., h => fun hr => h hr
  | .ref _, h => h
  | .array i, h => good_closed (s := i) h
  | .map v, h => good_closed (s := v) h
  | .union _, _ => trivial
  | .record .., h => fun hr => (h.1 hr).1

theorem good_deref {env : Env} {reg : Bool} (hg : EnvGood env reg) {s d : Schema} (hs : Good env reg s)
    (h : Spec.deref env s = some d) : Good env reg d := by
  cases s with
  | ref n => exact hg n d h
  | _ => cases h; exact hs

theorem isList_true {s : Schema} (h : isList s = true) : ∃ bs, s = .union bs := by
  cases s <;> first | exact ⟨_, rfl⟩ | exact Bool.noConfusion h

/-- `read_data` after `match_schemas` returned `r'`: the text of `Resolve.readR` from there on (`readR_succ`).  It has a name
    because under a reader union `match_schemas` answers with less fuel than the rest runs on, so that one level of
    `readR` is not `readR` on the branch (`after_ms` has two fuels). -/
def readRBody (fuel : Nat) (wenv renv : Env) (ro : ROpts) (w r' : Schema) (bs : Bytes) : R (Val × Bytes) :=
  match w with
  | .ref n =>
    match wenv.get? n with
    | none => throw .index
    | some wd =>
      match r' with
      | .ref m =>
        (match renv.get? m with
         | some rd => readR fuel wenv renv ro wd rd bs
         | none => Binary.readData fuel wenv ro wd bs)
      | .prim p false _ =>
        (match renv.get? p.name with
         | some rd => readR fuel wenv renv ro wd rd bs
         | none => Binary.readData fuel wenv ro wd bs)
      | _ => throw .type
  | .prim p _ lt => do
    let (v, rest) ← readPrim p bs
    if lt.isSome then
      let v ← Logical.readLogical p.name lt v
      pure (v, rest)
    else
      let v ← maybePromote v p.name r'.typeName
      pure (v, rest)
  | .fixed _ size lt _ => do
    let (v, rest) ← decFixed size bs
    if lt.isSome then
      let v ← Logical.readLogical "fixed" lt v
      pure (v, rest)
    else pure (v, rest)
  | .enum _ syms _ _ => do
    let (i, rest) ← decodeLong bs
    match indexChecked syms i with
    | none => throw .index
    | some sym =>
      let v ← resolveSymbol sym r'
      pure (v, rest)
  | .array wi =>
    match r' with
    | .array ri => do
      let (c, rest) ← decodeLong bs
      let (xs, rest) ← readBlocksWith (readR fuel wenv renv ro wi ri) (rest.length + 1) c rest
      pure (.list xs, rest)
    | _ => throw .index
  | .map wv =>
    match r' with
    | .map rv => do
      let (c, rest) ← decodeLong bs
      let (kv, rest) ← readMapBlocksWith (readR fuel wenv renv ro wv rv) (rest.length + 1) c rest []
      pure (.dict kv, rest)
    | _ => throw .index
  | .union wbs => do
    let (i, rest) ← decodeLong bs
    match indexChecked wbs i with
    | none => throw .index
    | some b =>
      match r' with
      | .union rs => do
        match ← firstMatchWith (matchTypes fuel wenv renv) b (readerBranches wenv renv b rs) with
        | some rb => readR fuel wenv renv ro b rb rest
        | none => throw .resolution
      | _ => do
        if ← matchTypes fuel wenv renv b r' then readR fuel wenv renv ro b r' rest
        else throw .resolution
  | .record _ wfields _ =>
    match r' with
    | .record _ rfields _ => do
      let (acc, rest) ← readFieldsRWith (readR fuel wenv renv ro) (skipData fuel wenv) rfields wfields bs []
      let acc ← if distinctNames rfields > acc.length
        then fillDefaults (wfields.map Field.name) (readerFieldItems rfields) acc else pure acc
      pure (.dict acc, rest)
    | _ => throw .index

theorem readR_succ (f : Nat) (wenv renv : Env) (ro : ROpts) (w r : Schema) (bs : Bytes) :
    readR (f+1) wenv renv ro w r bs = (matchSchemas f wenv renv w r >>= fun r' => readRBody f wenv renv ro w r' bs) := by
  rw [readR]; rfl

theorem spec_nomatch {wenv renv : Env} {F : Nat} {w r : Schema} {bs : Bytes} (h : Spec.matchesS wenv renv w r = false) :
    Spec.resolveRead (F+1) wenv renv w r bs = .error .resolution := by
  rw [Spec.resolveRead, h]; rfl

theorem pick_mem {wenv renv : Env} {w : Schema} {rs : List Schema} {b : Schema} (h : Spec.pickBranch wenv renv w rs = some b) : b ∈ rs := by
  unfold Spec.pickBranch at h
  split at h
  · rename_i b' hb; cases h; exact List.mem_of_find?_eq_some hb
  · split at h
    · rename_i b' hb; cases h; exact List.mem_of_find?_eq_some hb
    · exact List.mem_of_find?_eq_some h

theorem union_plain {wenv renv : Env} {fuel : Nat} {ro : ROpts} {b r : Schema} {rest : Bytes} : isList r = false →
    (match r with
      | .union rs => do
        match ← firstMatchWith (matchTypes fuel wenv renv) b (readerBranches wenv renv b rs) with
        | some rb => readR fuel wenv renv ro b rb rest
        | none => throw .resolution
      | _ => do
        if ← matchTypes fuel wenv renv b r then readR fuel wenv renv ro b r rest
        else throw .resolution) =
      (do if ← matchTypes fuel wenv renv b r then readR fuel wenv renv ro b r rest
          else throw .resolution : R (Val × Bytes)) := by
  intro hur
  cases r <;> first | rfl | exact Bool.noConfusion hur

section
variable {wenv renv : Env} (hwf : EnvWF wenv) (hrf : EnvWF renv)
include hwf

theorem pick_deref_w {w wd : Schema} (rs : List Schema) (h : Spec.deref wenv w = some wd) :
    Spec.pickBranch wenv renv wd rs = Spec.pickBranch wenv renv w rs := by
  have e1 : ∀ b, Spec.fullNameEq wenv renv wd b = Spec.fullNameEq wenv renv w b := by
    intro b; unfold Spec.fullNameEq; rw [deref_idem hwf h, h]
  have e2 : ∀ ex, Spec.matchesX ex wenv renv wd = Spec.matchesX ex wenv renv w := fun ex => funext fun b => (matches_deref_w hwf h).symm
  unfold Spec.pickBranch Spec.sameType Spec.matchesS
  simp only [e1, e2]

include hrf

theorem rr_deref {F : Nat} {w wd r rd : Schema} {bs : Bytes} (hw : Spec.deref wenv w = some wd) (hr : Spec.deref renv r = some rd) :
    Spec.resolveRead F wenv renv w r bs = Spec.resolveRead F wenv renv wd rd bs := by
  cases F with
  | zero => rfl
  | succ F =>
    unfold Spec.resolveRead
    rw [Spec.matchesS, matches_deref_w hwf hw, matches_deref_r hrf hr, hw, hr, deref_idem hwf hw, deref_idem hrf hr]

theorem spec_union_reader {F : Nat} {w : Schema} {rs : List Schema} {bs : Bytes}
    (hw : MClosed wenv false w) (huw : isList w = false) (hrs : ∀ b ∈ rs, MClosed renv true b) :
    Spec.resolveRead (F+1) wenv renv w (.union rs) bs =
      (match Spec.pickBranch wenv renv w rs with
       | some b => Spec.resolveRead F wenv renv w b bs
       | none => .error .resolution) := by
  have hwd := definitionOf_deref hw
  have hi := deref_idem hwf hwd
  rw [Spec.resolveRead, Spec.matchesS, spec_union_r false rs hw, hwd, ← pick_deref_w hwf rs hwd]
  -- on the writer's definition, which is not a union, the specification picks a branch; both readers then see `w` and
  -- the branch through their definitions
  have key : (match Spec.pickBranch wenv renv (definitionOf wenv w) rs with
       | some b => Spec.resolveRead F wenv renv (definitionOf wenv w) b bs
       | none => throw .resolution) = (match Spec.pickBranch wenv renv (definitionOf wenv w) rs with
       | some b => Spec.resolveRead F wenv renv w b bs
       | none => .error .resolution) := by
    cases hp : Spec.pickBranch wenv renv (definitionOf wenv w) rs with
    | none => rfl
    | some b =>
      have hbd := definitionOf_deref (hrs b (pick_mem hp))
      exact (rr_deref hwf hrf hi hbd).trans (rr_deref hwf hrf hwd hbd).symm
  have hf := deref_flat hwf hwd huw
  cases hd : definitionOf wenv w <;> rw [hd] at hf key <;> first | exact Bool.noConfusion hf | exact key

end

/-- the induction hypothesis of `readR_le`.  Twice the fuel: the specification spends one level on a writer union and
    one on a reader union. -/
def ReadLe (wenv renv : Env) (ro : ROpts) (f : Nat) : Prop :=
  ∀ w r, Good wenv false w → Good renv true r → ∀ F, 2 * f ≤ F → ∀ bs,
    Le (readR f wenv renv ro w r bs) (Spec.resolveRead F wenv renv w r bs)

/-- both schemas given by their definitions and matching: the two are of the same kind -/
theorem flat_step {wenv renv : Env} {ro : ROpts} {f F : Nat} (ih : ReadLe wenv renv ro f) (hF : 2 * f ≤ F) {w rd : Schema} {bs : Bytes}
    (hw : Good wenv false w) (hr : Good renv true rd) (hfw : flat w = true) (hfr : flat rd = true)
    (hm : Spec.matchesS wenv renv w rd = true) :
    Le (readRBody f wenv renv ro w rd bs) (Spec.resolveRead (F+1) wenv renv w rd bs) := by
  rw [Spec.resolveRead, hm]
  cases w <;> cases rd <;> first | exact Bool.noConfusion hfw | exact Bool.noConfusion hfr | exact Bool.noConfusion hm | skip
  case prim.prim =>
    cases hw rfl
    simp only [readRBody, Spec.deref, Option.isSome_none, Bool.false_eq_true, if_false, Schema.typeName, promote_eq]
    exact Le.refl
  case fixed.fixed size _ _ _ _ _ _ =>
    cases hw.1 rfl
    simp only [readRBody, Spec.deref, Option.isSome_none, Bool.false_eq_true, if_false]
    cases decFixed size bs <;> exact Le.refl
  case enum.enum syms _ _ _ _ rdef _ =>
    simp only [readRBody, Spec.deref, Bool.not_true, Bool.false_eq_true, if_false]
    refine Le.bind_right fun x _ => ?_
    cases indexChecked syms x.1 with
    | none => exact Le.refl
    | some sym =>
      simp only [resolveSymbol]
      split
      · exact Le.refl
      · cases rdef with
        | none => exact Le.refl
        | some dv => simp only []; split <;> exact Le.refl
  -- two arrays, two maps: `Le.bind_right` finds `decodeLong bs >>= …` on both sides only after `readRBody` on the left and
  -- the specification's `if (!true)` and `match` on the two definitions on the right are unfolded: the unifier does that
  case array.array wi ri =>
    exact Le.bind_right fun x _ => Le.bind (blocks_le (ih wi ri hw hr F hF) _ _ _) fun _ _ => Le.refl
  case map.map wv rv =>
    exact Le.bind_right fun x _ => Le.bind (mapBlocks_le (ih wv rv hw hr F hF) _ _ _ _) fun _ _ => Le.refl
  case record.record _ wfs _ _ rfs _ =>
    obtain ⟨hreg, hgf⟩ := hr
    obtain ⟨_, hN, hU⟩ := hreg rfl
    simp only [readRBody, Spec.deref, Bool.not_true, Bool.false_eq_true, if_false, fields_eq _ _ rfs (findReaderField_eq rfs hU)]
    refine Le.bind (SpecMono.fieldsWith_le rfs (fun s bs => skipData_le (by omega) s bs) wfs
      (fun wf hwf rf hrf' bs => ih wf.type rf.type (goodFields_mem hw.2 wf hwf) (goodFields_mem hgf rf hrf') F hF bs) bs []) ?_
    intro x hx
    rw [← RecDef.record_defaults hN hx]
    split <;> exact Le.refl

section
variable {wenv renv : Env} (hwf : EnvWF wenv) (hrf : EnvWF renv)
include hwf hrf

/-- the reader-union step on both sides, given what to do with the branch -/
theorem pick_step {g : Nat} {w : Schema} {rs : List Schema} (hw : Good wenv false w) (huw : isList w = false)
    (hrs : ∀ b ∈ rs, Good renv true b ∧ isList b = false) {k k' : Schema → R (Val × Bytes)}
    (hk : ∀ b ∈ rs, Le (k b) (k' b)) :
    Le (do match ← firstMatchWith (matchTypes g wenv renv) w (readerBranches wenv renv w rs) with
          | some b => k b
          | none => throw .resolution)
      (match Spec.pickBranch wenv renv w rs with | some b => k' b | none => .error .resolution) := by
  refine Le.trans (Le.bind (pick_le hwf hrf g w rs (good_closed hw) huw
    fun b hb => ⟨good_closed (hrs b hb).1, (hrs b hb).2⟩) fun _ _ => Le.refl) ?_
  cases hp : Spec.pickBranch wenv renv w rs with
  | none => exact Le.refl
  | some b => exact hk b (pick_mem hp)

variable (hgw : EnvGood wenv false) (hgr : EnvGood renv true) (ro : ROpts)
include hgw hgr

/-- one level after `match_schemas` has answered: a writer name goes on with the two definitions (the specification
    reader sees schemas only through them); any other writer schema is read against the reader's definition -/
theorem body_le {f F : Nat} (ih : ReadLe wenv renv ro f) (hF : 2 * f ≤ F) {w r : Schema} {bs : Bytes}
    (hw : Good wenv false w) (hr : Good renv true r) (huw : isList w = false) (hur : isList r = false)
    (hm : Spec.matchesS wenv renv w r = true) :
    Le (readRBody f wenv renv ro w (cont renv w r) bs) (Spec.resolveRead (F+1) wenv renv w r bs) := by
  have hrc := good_closed hr
  have hrd := definitionOf_deref hrc
  have hg := cont_deref hwf hrf (good_closed hw) hrc huw hur hm
  cases w with
  | ref n =>
    obtain ⟨wd, hwd⟩ := hw
    have hg : renv.get? _ = some (definitionOf renv r) := hg
    rw [rr_deref hwf hrf (w := .ref n) hwd hrd]
    simp only [readRBody, cont_ref, hwd, hg]
    exact ih wd _ (hgw n wd hwd) (hgr _ _ hg) (F+1) (by omega) bs
  | union _ => exact Bool.noConfusion huw
  | _ =>
    rw [rr_deref hwf hrf rfl hrd]
    rw [Spec.matchesS, matches_deref_r hrf hrd] at hm
    exact flat_step ih hF hw (good_deref hgr hr hrd) rfl (deref_flat hrf hrd hur) hm

theorem after_ms {f g F : Nat} (ih : ReadLe wenv renv ro f) (hF : 2 * f + 1 ≤ F) {w r : Schema} {bs : Bytes}
    (hw : Good wenv false w) (hr : Good renv true r) (huw : isList w = false) (hur : isList r = false) :
    Le (matchSchemas g wenv renv w r >>= fun r' => readRBody f wenv renv ro w r' bs) (Spec.resolveRead F wenv renv w r bs) := by
  obtain ⟨F, rfl⟩ := Nat.exists_eq_add_of_le' (show 1 ≤ F by omega)
  refine Le.trans (Le.bind (ms_le hwf hrf g w r (good_closed hw) (good_closed hr) huw hur) fun _ _ => Le.refl) ?_
  unfold msSpec
  cases hm : Spec.matchesS wenv renv w r with
  | false => rw [spec_nomatch hm]; exact Le.refl
  | true => exact body_le hwf hrf hgw hgr ro ih (by omega) hw hr huw hur hm

theorem readR_le (f : Nat) : ReadLe wenv renv ro f := by
  induction f with
  | zero => exact fun _ _ _ _ _ _ _ => Le.fuel
  | succ f ih =>
    intro w r hw hr F hF bs
    obtain ⟨F, rfl⟩ := Nat.exists_eq_add_of_le' (show 1 ≤ F by omega)
    rw [readR_succ]
    cases huw : isList w with
    | true =>
      obtain ⟨wbs, rfl⟩ := isList_true huw
      -- writer union: the branch that was written against the reader schema (a branch of it, if that is a union)
      cases f with
      | zero => exact Le.fuel
      | succ g =>
        have hrd := definitionOf_deref (good_closed hr)
        rw [ms_union_w, ok_bind, Spec.resolveRead, Spec.matchesS, spec_union_w false wbs (good_closed hr), hrd]
        simp only [Spec.deref, readRBody, Bool.not_true, Bool.false_eq_true, if_false]
        refine Le.bind_right fun x _ => ?_
        cases hi : indexChecked wbs x.1 with
        | none => exact Le.refl
        | some b =>
          obtain ⟨hgb, hub⟩ := goodList_mem hw b (indexChecked_mem hi)
          have hbd := definitionOf_deref (good_closed hgb)
          simp only []
          rw [rr_deref hwf hrf hbd (deref_idem hrf hrd), ← rr_deref hwf hrf hbd hrd]
          cases hur : isList r with
          | true =>
            obtain ⟨rs, rfl⟩ := isList_true hur
            have hrs := goodList_mem hr
            -- one more level of the specification, for the reader union
            obtain ⟨F', rfl⟩ := Nat.exists_eq_add_of_le' (show 1 ≤ F by omega)
            rw [spec_union_reader hwf hrf (good_closed hgb) hub fun x hx => good_closed (hrs x hx).1]
            exact pick_step hwf hrf hgb hub hrs fun rb hrb => ih b rb hgb (hrs rb hrb).1 F' (by omega) _
          | false =>
            rw [union_plain hur]
            refine Le.trans (Le.bind (mt_le hwf hrf (g+1) b r (good_closed hgb) (good_closed hr)) fun _ _ => Le.refl) ?_
            cases hm : Spec.matchesS wenv renv b r with
            | true => exact ih b r hgb hr F (by omega) _
            | false =>
              obtain ⟨F', rfl⟩ := Nat.exists_eq_add_of_le' (show 1 ≤ F by omega)
              rw [spec_nomatch hm]; exact Le.refl
    | false =>
      cases hur : isList r with
      | true =>
        obtain ⟨rs, rfl⟩ := isList_true hur
        -- reader union: the branch picked for the writer schema
        cases f with
        | zero => exact Le.fuel
        | succ g =>
          have hrs := goodList_mem hr
          rw [ms_union_r huw, bind_assoc,
            spec_union_reader hwf hrf (good_closed hw) huw fun x hx => good_closed (hrs x hx).1]
          refine Le.trans ?_ (pick_step hwf hrf (g := g) hw huw hrs
            (k := fun b => matchSchemas g wenv renv w b >>= fun r' => readRBody (g+1) wenv renv ro w r' bs)
            fun b hb => after_ms hwf hrf hgw hgr ro ih (by omega) hw (hrs b hb).1 huw (hrs b hb).2)
          refine Le.bind_right fun o _ => ?_
          cases o <;> exact Le.refl
      | false => exact after_ms hwf hrf hgw hgr ro ih (by omega) hw hr huw hur

end

end ResolveFull
