/-
  Proofs/Header.lean — the value `write_header` encodes under `HEADER_SCHEMA` is its own normal form, so
  that `_read_header` reads it back is an instance of the C01 round trip (`c04_header_roundtrip`).
-/
import Model.Container
import Spec.Normalize
import Proofs.DictGet

namespace HeaderProofs
open Container

def hdrVal (metadata : List (String × Bytes)) (sync : Bytes) : Val :=
  .dict [(.str "magic", .bytes MAGIC),
         (.str "meta", .dict (metadata.map fun e => (Val.str e.1, Val.bytes e.2))),
         (.str "sync", .bytes sync)]

theorem entries_norm (f : Val → Option Val) (m : List (String × Bytes))
    (hf : ∀ e ∈ m, f (.bytes e.2) = some (.bytes e.2)) :
    Spec.normEntriesWith f (m.map fun e => (Val.str e.1, Val.bytes e.2))
      = some (m.map fun e => (Val.str e.1, Val.bytes e.2)) := by
  induction m with
  | nil => rfl
  | cons e m ih =>
    simp only [List.map_cons, Spec.normEntriesWith, hf e (by simp), Option.bind_eq_bind,
      Option.bind_some, ih (fun e he => hf e (by simp [he]))]

theorem header_norm (metadata : List (String × Bytes)) (sync : Bytes) (hsync : sync.length = 16)
    (hkeys : (metadata.map (·.1)).Nodup) (hlen : metadata.length < Spec.LIMIT)
    (hsmall : ∀ e ∈ metadata, (utf8Enc e.1).length < Spec.LIMIT ∧ e.2.length < Spec.LIMIT) :
    Spec.normalize 4 [] {} headerSchema (hdrVal metadata sync) = some (hdrVal metadata sync) := by
  have hmagic : Spec.normalize 3 [] {} (.fixed "magic" 4 none []) (.bytes MAGIC) = some (.bytes MAGIC) := rfl
  have hmeta : Spec.normalize 3 [] {} (.map (.prim .bytes false none))
      (.dict (metadata.map fun e => (Val.str e.1, Val.bytes e.2))) =
      some (.dict (metadata.map fun e => (Val.str e.1, Val.bytes e.2))) := by
    have hk : Spec.keysOk (metadata.map fun e => (Val.str e.1, Val.bytes e.2)) = true := by
      simp only [Spec.keysOk, Bool.and_eq_true, List.all_eq_true, decide_eq_true_eq,
        Dict.dictKeys_map_str (fun e : String × Bytes => e.1) (fun e => Val.bytes e.2)]
      exact ⟨fun e he => by obtain ⟨x, _, rfl⟩ := List.mem_map.mp he; rfl, hkeys⟩
    have hent := entries_norm (Spec.normalize 2 [] {} (.prim .bytes false none)) metadata fun e he => by
      simp [Spec.normalize, Spec.normPrim, (hsmall e he).2]
    -- the guard of the `.map` clause: the keys are distinct strings, fewer than `LIMIT` entries, every key short
    rw [Spec.normalize, if_pos ⟨hk, by simpa using hlen, by simpa using fun e he => (hsmall e he).1⟩, hent]
    rfl
  have hsy : Spec.normalize 3 [] {} (.fixed "sync" 16 none []) (.bytes sync) = some (.bytes sync) := by
    rw [Spec.normalize]; exact if_pos hsync
  rw [hdrVal, headerSchema, Spec.normalize, if_pos (by decide)]
  simp only [Spec.normFieldsWith, dictGetV, Field.name, Field.type, String.reduceBEq, beq_self_eq_true,
    Bool.false_eq_true, ↓reduceIte, hmagic, hmeta, hsy, Option.bind_eq_bind, Option.bind_some, Option.map_some]

theorem filterMap_back (f : Val × Val → Option (String × Bytes)) (hf : ∀ k b, f (.str k, .bytes b) = some (k, b))
    (m : List (String × Bytes)) : (m.map fun e => (Val.str e.1, Val.bytes e.2)).filterMap f = m := by
  induction m with
  | nil => rfl
  | cons e m ih => simp only [List.map_cons, List.filterMap_cons, hf, ih]

end HeaderProofs
