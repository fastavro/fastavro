/-
  Proofs/Basic.lean — small lemmas about the write-result monoid, little-endian bytes and the
  primitive readers, among them what they return on the specification's encodings (`Spec.EncPrim`); the two index
  functions, `indexChecked` (union branch, enum symbol when reading) and `indexOf?` (enum symbol when writing).
-/
import Model.Binary
import Spec.Enc
import Proofs.R
import Proofs.Varint
import Proofs.Py

namespace BasicProofs
open Binary R VarintProofs

theorem append_ok_iff {a b : WR} {bs : Bytes} :
    a.append b = ⟨bs, none⟩ ↔ ∃ b1 b2, a = ⟨b1, none⟩ ∧ b = ⟨b2, none⟩ ∧ bs = b1 ++ b2 := by
  obtain ⟨ao, _ | e⟩ := a
  · obtain ⟨bo, _ | e⟩ := b
    · -- neither raised: the result is `⟨ao ++ bo, none⟩`
      constructor
      · intro h; cases h; exact ⟨ao, bo, rfl, rfl, rfl⟩
      · rintro ⟨_, _, ⟨⟩, ⟨⟩, rfl⟩; rfl
    · simp [WR.append]
  · simp [WR.append]

@[simp] theorem fail_ne (e : Err) (bs : Bytes) : (WR.fail e = ⟨bs, none⟩) ↔ False := by
  simp [WR.fail]

theorem takeN_append {n : Nat} {a : Bytes} (h : a.length = n) (rest : Bytes) : takeN n (a ++ rest) = some (a, rest) := by
  subst h
  unfold takeN
  simp

theorem decFloat_u32LE (f : UInt32) (rest : Bytes) :
    decFloat (u32LE f ++ rest) = .ok (.float (Fl.f32ToF64 f), rest) := by
  have : f.toNat % 256 ^ 4 = f.toNat := Nat.mod_eq_of_lt f.toNat_lt
  simp only [decFloat, u32LE, takeN_append (Py.toBytesLE_length 4 _), Py.fromBytesLE_toBytesLE, this, UInt32.ofNat_toNat]

theorem decDouble_u64LE (d : UInt64) (rest : Bytes) :
    decDouble (u64LE d ++ rest) = .ok (.float d, rest) := by
  have : d.toNat % 256 ^ 8 = d.toNat := Nat.mod_eq_of_lt d.toNat_lt
  simp only [decDouble, u64LE, takeN_append (Py.toBytesLE_length 8 _), Py.fromBytesLE_toBytesLE, this, UInt64.ofNat_toNat]

/-- lengths, counts and indices (`Spec.encLen` in the specification): the model's `encodeLong` writes the specification's bytes -/
theorem encLen_eq (n : Nat) (h : n < 2 ^ 63) : encodeLong (n : Int) = WR.ok (Spec.encodeLong (n : Int)) :=
  encodeLong_eq_spec n (by omega) (by omega)

theorem leBytes_eq (n x : Nat) : Spec.leBytes n x = Py.toBytesLE n x := by
  induction n generalizing x with
  | zero => rfl
  | succ n ih =>
    unfold Spec.leBytes
    rw [List.range_succ_eq_map, List.map_cons, List.map_map, Py.toBytesLE]
    congr 1
    · simp
    · rw [← ih (x / 256)]
      unfold Spec.leBytes
      apply List.map_congr_left
      intro i _
      simp only [Function.comp]
      rw [Nat.pow_succ, Nat.mul_comm, ← Nat.div_div_eq_div_mul]

theorem lenPrefixed_decode (b rest : Bytes) :
    decBytesRaw (Spec.encodeLong b.length ++ (b ++ rest)) = .ok (b, rest) := by
  have : ¬ ((b.length : Int) < 0) := by omega
  simp only [decBytesRaw, decode_spec, ok_bind, this, ↓reduceIte, Int.toNat_natCast, takeN_append rfl]; rfl

theorem utf8_decode (s : String) (rest : Bytes) :
    decUtf8Raw (Spec.encodeLong (utf8Enc s).length ++ (utf8Enc s ++ rest)) = .ok (s, rest) := by
  simp only [decUtf8Raw, lenPrefixed_decode, ok_bind, utf8Dec_utf8Enc]; rfl

theorem prim_accept {p : Prim} {v : Val} {bs : Bytes} (h : Spec.EncPrim p v bs) (rest : Bytes) :
    readPrim p (bs ++ rest) = .ok (v, rest) := by
  cases h with
  | null => rfl
  | boolean b => cases b <;> rfl
  | int n h => simp only [readPrim, decode_spec, ok_bind]; rfl
  | long n h => simp only [readPrim, decode_spec, ok_bind]; rfl
  | float f => rw [leBytes_eq]; exact decFloat_u32LE f rest
  | double d => rw [leBytes_eq]; exact decDouble_u64LE d rest
  | bytes b h => simp only [readPrim, decBytes, List.append_assoc, lenPrefixed_decode, ok_bind]; rfl
  | string s h => simp only [readPrim, decUtf8, List.append_assoc, utf8_decode, ok_bind]; rfl

end BasicProofs

namespace Binary

theorem indexChecked_nat {α} (xs : List α) (i : Nat) : indexChecked xs (i : Int) = xs[i]? := by
  unfold indexChecked
  have : ¬ ((i : Int) < 0) := by omega
  simp [this]

theorem indexChecked_mem {α} {xs : List α} {i : Int} {a : α} (h : indexChecked xs i = some a) : a ∈ xs := by
  unfold indexChecked at h
  split at h
  · cases h
  · exact List.mem_of_getElem? h

theorem indexChecked_eq_none {α} {xs : List α} {i : Int} (h : i < 0 ∨ (xs.length : Int) ≤ i) : indexChecked xs i = none := by
  unfold indexChecked
  rcases h with h | h
  · simp [h]
  · have : ¬ i < 0 := by omega
    simp only [this, ↓reduceIte]
    exact List.getElem?_eq_none (by omega)

theorem indexOf_findIdx {xs : List String} {x : String} {i : Nat} (h : indexOf? xs x = some i) :
    xs.findIdx (· == x) = i ∧ i < xs.length := by
  unfold indexOf? at h
  simp only at h
  split at h <;> cases h
  exact ⟨rfl, ‹_›⟩

theorem indexOf_get {xs : List String} {x : String} {i : Nat} (h : indexOf? xs x = some i) : xs[i]? = some x := by
  obtain ⟨rfl, hlt⟩ := indexOf_findIdx h
  rw [List.getElem?_eq_getElem hlt]; simpa using List.findIdx_getElem (w := hlt)

theorem contains_indexOf {syms : List String} {x : String} (h : syms.contains x = true) :
    ∃ i, indexOf? syms x = some i ∧ syms[i]? = some x := by
  have : syms.findIdx (· == x) < syms.length := List.findIdx_lt_length_of_exists ⟨x, by simpa using h, by simp⟩
  have hi : indexOf? syms x = some (syms.findIdx (· == x)) := by simp [indexOf?, this]
  exact ⟨_, hi, indexOf_get hi⟩

theorem indexOf_head (l : String) (ls : List String) : indexOf? (l :: ls) l = some 0 := by
  unfold indexOf?; simp [List.findIdx_cons]

end Binary
