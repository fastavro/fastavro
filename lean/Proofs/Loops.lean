/-
  Proofs/Loops.lean — `Reads rd a bs`: the reader `rd` takes `bs` off the front of its input and returns `a`.
  One introduction rule for the end and for an iteration of each reader loop, and one per schema kind of `readData`: the
  constructors of `Spec.Enc`, read as facts about the reader.
-/
import Proofs.Basic

namespace Loops
open Binary R VarintProofs BasicProofs

def Reads {α} (rd : Bytes → R (α × Bytes)) (a : α) (bs : Bytes) : Prop := ∀ rest, rd (bs ++ rest) = .ok (a, rest)

theorem Reads.unique {α} {rd : Bytes → R (α × Bytes)} {a b : α} {bs r : Bytes} (h : Reads rd a bs)
    (hb : rd bs = .ok (b, r)) : a = b := by
  have := h []
  rw [List.append_nil, hb] at this
  exact (Prod.mk.inj (Except.ok.inj this)).1.symm

/-- `Reads` for a loop over blocks with a bound `k` on their number: any `k` above the length of the blocks' bytes
    will do, since every block ends with a count of at least one byte (`readData` passes the length of all its
    input plus one) -/
def ReadsBlocks {α} (rd : Nat → Bytes → R (α × Bytes)) (a : α) (bs : Bytes) : Prop :=
  ∀ k, bs.length + 1 ≤ k → Reads (rd k) a bs

theorem blockCount_pos (n : Nat) : Reads (blockCount n) n [] := fun p => by
  have : ¬ ((n : Int) < 0) := by omega
  simp only [blockCount, this, ↓reduceIte, Int.toNat_natCast]; rfl

theorem blockCount_neg {n : Nat} (hn : 0 < n) (sz : Int) : Reads (blockCount (-(n : Int))) n (Spec.encodeLong sz) := fun p => by
  have : -(n : Int) < 0 := by omega
  simp only [blockCount, this, ↓reduceIte, decode_spec, ok_bind, Int.neg_neg, Int.toNat_natCast]; rfl

theorem count_ne_zero {c : Int} {n : Nat} {hd : Bytes} (hn : 0 < n) (h : Reads (blockCount c) n hd) : (c == 0) = false := by
  rw [beq_eq_false_iff_ne]; rintro rfl
  exact Nat.ne_of_gt hn (h.unique rfl)

theorem encodeLong_length_pos (c : Int) : 1 ≤ (Spec.encodeLong c).length := by
  rw [Spec.encodeLong, ← varint_eq_spec]
  exact List.length_pos_iff.2 (varint_ne_nil _)

section loops
variable {rd : Bytes → R (Val × Bytes)} {c c' : Int} {n : Nat} {hd b1 b2 : Bytes}

theorem readItemsWith_nil : Reads (readItemsWith rd 0) [] [] := fun _ => rfl

theorem readItemsWith_cons {x xs} (h1 : Reads rd x b1) (h2 : Reads (readItemsWith rd n) xs b2) :
    Reads (readItemsWith rd (n+1)) (x :: xs) (b1 ++ b2) := fun rest => by
  simp only [readItemsWith, List.append_assoc, h1 _, h2 _, ok_bind]; rfl

theorem readEntriesWith_nil {acc} : Reads (readEntriesWith rd 0 · acc) acc [] := fun _ => rfl

theorem readEntriesWith_cons {k : String} {x acc res} (h1 : Reads rd x b1)
    (h2 : Reads (readEntriesWith rd n · (valDictSet acc k x)) res b2) :
    Reads (readEntriesWith rd (n+1) · acc) res ((Spec.encodeLong (utf8Enc k).length ++ utf8Enc k) ++ (b1 ++ b2)) :=
  fun rest => by simp only [readEntriesWith, List.append_assoc, utf8_decode, h1 _, h2 _, ok_bind]

theorem readBlocksWith_done : ReadsBlocks (readBlocksWith rd · 0) [] []
  | _+1, _, _ => rfl

theorem readBlocksWith_block {xs ys} (hn : 0 < n) (h1 : Reads (blockCount c) n hd) (h2 : Reads (readItemsWith rd n) xs b1)
    (h3 : ReadsBlocks (readBlocksWith rd · c') ys b2) :
    ReadsBlocks (readBlocksWith rd · c) (xs ++ ys) (hd ++ (b1 ++ (Spec.encodeLong c' ++ b2)))
  | k+1, hk, rest => by
    have := encodeLong_length_pos c'
    simp only [List.length_append] at hk
    simp only [readBlocksWith, count_ne_zero hn h1, Bool.false_eq_true, ↓reduceIte, List.append_assoc, h1 _, h2 _,
      decode_spec, h3 k (by omega) _, ok_bind]; rfl

/-- the layout `write_array` produces: one block with a positive count, then the terminator -/
theorem readBlocksWith_single {xs} (hn : 0 < n) (h : Reads (readItemsWith rd n) xs b1) :
    ReadsBlocks (readBlocksWith rd · n) xs (b1 ++ Spec.encodeLong 0) := by
  simpa using readBlocksWith_block (hd := []) hn (blockCount_pos n) h readBlocksWith_done

theorem readMapBlocksWith_done {acc} : ReadsBlocks (readMapBlocksWith rd · 0 · acc) acc []
  | _+1, _, _ => rfl

theorem readMapBlocksWith_block {acc acc' res} (hn : 0 < n) (h1 : Reads (blockCount c) n hd)
    (h2 : Reads (readEntriesWith rd n · acc) acc' b1) (h3 : ReadsBlocks (readMapBlocksWith rd · c' · acc') res b2) :
    ReadsBlocks (readMapBlocksWith rd · c · acc) res (hd ++ (b1 ++ (Spec.encodeLong c' ++ b2)))
  | k+1, hk, rest => by
    have := encodeLong_length_pos c'
    simp only [List.length_append] at hk
    simp only [readMapBlocksWith, count_ne_zero hn h1, Bool.false_eq_true, ↓reduceIte, List.append_assoc, h1 _, h2 _,
      decode_spec, h3 k (by omega) _, ok_bind]

theorem readMapBlocksWith_single {acc res} (hn : 0 < n) (h : Reads (readEntriesWith rd n · acc) res b1) :
    ReadsBlocks (readMapBlocksWith rd · n · acc) res (b1 ++ Spec.encodeLong 0) := by
  simpa using readMapBlocksWith_block (hd := []) hn (blockCount_pos n) h readMapBlocksWith_done

end loops

theorem readFieldsWith_nil {rd : Schema → Bytes → R (Val × Bytes)} {acc} : Reads (readFieldsWith rd [] · acc) acc [] :=
  fun _ => rfl

theorem readFieldsWith_cons {rd : Schema → Bytes → R (Val × Bytes)} {f : Field} {fs x acc res} {b1 b2 : Bytes}
    (h1 : Reads (rd f.type) x b1) (h2 : Reads (readFieldsWith rd fs · (valDictSet acc f.name x)) res b2) :
    Reads (readFieldsWith rd (f :: fs) · acc) res (b1 ++ b2) :=
  fun rest => by simp only [readFieldsWith, List.append_assoc, h1 _, h2 _, ok_bind]

section readData
variable {f : Nat} {env : Env} {ro : ROpts}

theorem readData_prim {p df v bs} (h : Spec.EncPrim p v bs) : Reads (readData (f+1) env ro (.prim p df none)) v bs :=
  fun rest => by simp only [readData, prim_accept h rest, ok_bind]; cases df <;> rfl

theorem readData_fixed {name size al} {b : Bytes} (h : b.length = size) :
    Reads (readData (f+1) env ro (.fixed name size none al)) (.bytes b) b :=
  fun rest => by simp only [readData, decFixed, takeN_append h, ok_bind]; rfl

theorem readData_enum {name syms d al x} {i : Nat} (h : syms[i]? = some x) :
    Reads (readData (f+1) env ro (.enum name syms d al)) (.str x) (Spec.encodeLong i) :=
  fun rest => by simp only [readData, decode_spec, ok_bind, indexChecked_nat, h]; rfl

theorem readData_array {items c xs bs} (h : ReadsBlocks (readBlocksWith (readData f env ro items) · c) xs bs) :
    Reads (readData (f+1) env ro (.array items)) (.list xs) (Spec.encodeLong c ++ bs) :=
  fun rest => by simp only [readData, List.append_assoc, decode_spec, ok_bind, h ((bs ++ rest).length + 1) (by simp) rest]; rfl

theorem readData_map {values c kv bs} (h : ReadsBlocks (readMapBlocksWith (readData f env ro values) · c · []) kv bs) :
    Reads (readData (f+1) env ro (.map values)) (.dict kv) (Spec.encodeLong c ++ bs) :=
  fun rest => by simp only [readData, List.append_assoc, decode_spec, ok_bind, h ((bs ++ rest).length + 1) (by simp) rest]; rfl

/-- with the default options `read_union` returns the branch's value as it is -/
theorem readData_union {branches b v bs} {i : Nat} (hb : branches[i]? = some b) (h : Reads (readData f env {} b) v bs) :
    Reads (readData (f+1) env {} (.union branches)) v (Spec.encodeLong i ++ bs) :=
  fun rest => by
    simp only [readData, List.append_assoc, decode_spec, ok_bind, indexChecked_nat, hb, h rest]
    cases b <;> rfl

theorem readData_record {name fields al kv bs} (h : Reads (readFieldsWith (readData f env ro) fields · []) kv bs) :
    Reads (readData (f+1) env ro (.record name fields al)) (.dict kv) bs :=
  fun rest => by simp only [readData, h rest, ok_bind]; rfl

theorem readData_ref {n s v bs} (hn : env.get? n = some s) (h : Reads (readData f env ro s) v bs) :
    Reads (readData (f+1) env ro (.ref n)) v bs :=
  fun rest => by simp only [readData, hn, h rest]

end readData

end Loops
