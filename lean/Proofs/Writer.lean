/-
  Proofs/Writer.lean — the `Writer` state machine (C04, C05, C07).  `WInv` relates a writer state to a ghost
  record of what was submitted.  Every operation preserves it (`inv_step`), so after a flush the stream reads back
  as the records submitted (`flush_reads_back`).  Generic in the record codec: `OpOk` asks of a written record
  what C01 proves (`c01_roundtrip`), `hext` is C03's `c03_read_extend`.
-/
import Proofs.Container

namespace WriterProofs
open Container ContainerProofs R

/-- `n` records, all or nothing (the recursion of `Binary.readItemsWith`).  The invariant states the pending buffer in
    this form, with nothing left over, since that is what appending a record preserves (`decMany_snoc`); the reader's
    `readRecords`, which yields until a record fails, follows from it. -/
def decMany (dec : Bytes → R (Val × Bytes)) : Nat → Bytes → R (List Val × Bytes)
  | 0, bs => .ok ([], bs)
  | n+1, bs => do
    let (v, r) ← dec bs
    let (vs, r') ← decMany dec n r
    pure (v :: vs, r')

theorem readRecords_of_decMany {dec : Bytes → R (Val × Bytes)} {n : Nat} {bs : Bytes} {vs : List Val} {r : Bytes}
    (h : decMany dec n bs = .ok (vs, r)) : readRecords dec n bs = (vs, none) := by
  induction n generalizing bs vs with
  | zero => cases h; rfl
  | succ n ih =>
    simp only [decMany, bind_ok_iff, pure_ok_iff] at h
    obtain ⟨⟨v, r1⟩, h1, ⟨vs', r2⟩, h2, ⟨⟩⟩ := h
    simp only [readRecords, h1, ih h2]

theorem decMany_snoc (dec : Bytes → R (Val × Bytes))
    (hext : ∀ p v r q, dec p = .ok (v, r) → dec (p ++ q) = .ok (v, r ++ q))
    (n : Nat) (bs w : Bytes) (vs : List Val) (nf : Val)
    (h : decMany dec n bs = .ok (vs, [])) (hw : dec w = .ok (nf, [])) :
    decMany dec (n + 1) (bs ++ w) = .ok (vs ++ [nf], []) := by
  induction n generalizing bs vs with
  | zero =>
    cases h
    simp only [decMany, List.nil_append, hw, ok_bind, pure_eq]
  | succ n ih =>
    simp only [decMany, bind_ok_iff, pure_ok_iff] at h
    obtain ⟨⟨v, r1⟩, h1, ⟨vs', r2⟩, h2, ⟨⟩⟩ := h
    rw [decMany, hext _ _ _ w h1]
    simp only [ok_bind, ih r1 vs' h2, pure_eq, List.cons_append]

section
variable (enc : Val → WR) (dec : Bytes → R (Val × Bytes)) (validate : Val → R Bool) (cfg : WCfg)
variable (nfOf : Val → Val)

/-- ghost view of a writer state: the blocks written so far, the records sitting in the pending block, everything
    successfully submitted -/
structure Ghost where
  blocks : List Blk
  pend : List Val
  submitted : List Val

def WInv (hdr : Bytes) (st : WState) (g : Ghost) : Prop :=
  st.out = hdr ++ flat cfg.codec cfg.sync g.blocks ∧
  (∀ b ∈ g.blocks, readRecords dec b.count b.payload = (b.recs, none)) ∧
  decMany dec st.count st.pending = .ok (g.pend, []) ∧
  g.blocks.flatMap (·.recs) ++ g.pend = g.submitted

def gDump (st : WState) (g : Ghost) : Ghost :=
  { g with blocks := g.blocks ++ [⟨st.count, st.pending, g.pend⟩], pend := [] }

def gStep (st : WState) (g : Ghost) : Op → Ghost
  | .write v =>
    if (step enc validate cfg st (.write v)).2.isSome then g
    else
      let w := enc v
      let st' : WState := { st with pending := st.pending ++ w.out, count := st.count + 1 }
      let g' : Ghost := { g with pend := g.pend ++ [nfOf v], submitted := g.submitted ++ [nfOf v] }
      if st'.pending.length ≥ cfg.interval then gDump st' g' else g'
  | .flush => if st.pending.length != 0 || st.count > 0 then gDump st g else g
  | .writeBlock n payload =>
    let g1 := if st.pending.length != 0 || st.count > 0 then gDump st g else g
    let recs := (readRecords dec n.toNat payload).1
    { g1 with blocks := g1.blocks ++ [⟨n.toNat, payload, recs⟩], submitted := g1.submitted ++ recs }

/-- what a history may contain: a record whose encoding, if it succeeds, reads back as `nfOf` of it (C01), a block
    of another file that decodes to its record count -/
def OpOk : Op → Prop
  | .write v => ∀ w, enc v = ⟨w, none⟩ → dec w = .ok (nfOf v, [])
  | .flush => True
  | .writeBlock n payload => 0 ≤ n ∧ (readRecords dec n.toNat payload).2 = none

def runG (sg : WState × Ghost) (ops : List Op) : WState × Ghost :=
  ops.foldl (fun sg op => ((step enc validate cfg sg.1 op).1, gStep enc dec validate cfg nfOf sg.1 sg.2 op)) sg

theorem step_write_cases (st : WState) (v : Val) :
    (∃ e, step enc validate cfg st (.write v) = (st, some e)) ∨
    (∃ w, enc v = ⟨w, none⟩ ∧ step enc validate cfg st (.write v) =
      (if (st.pending ++ w).length ≥ cfg.interval
        then dump cfg { st with pending := st.pending ++ w, count := st.count + 1 }
        else { st with pending := st.pending ++ w, count := st.count + 1 }, none)) := by
  simp only [step]
  cases writeGate validate cfg v with
  | some e => exact .inl ⟨e, rfl⟩
  | none =>
    cases hev : enc v with
    | mk o e =>
      cases e with
      | some e => exact .inl ⟨e, rfl⟩
      | none => exact .inr ⟨o, rfl, rfl⟩

theorem dumpIfPending_out (st : WState) : st.out <+: (dumpIfPending cfg st).out := by
  unfold dumpIfPending
  split
  · exact List.prefix_append ..
  · exact List.prefix_rfl

theorem step_out (st : WState) (op : Op) : st.out <+: (step enc validate cfg st op).1.out := by
  cases op with
  | write v =>
    rcases step_write_cases enc validate cfg st v with ⟨e, h⟩ | ⟨w, _, h⟩ <;> rw [h]
    · exact List.prefix_rfl
    · dsimp only
      split
      · exact List.prefix_append ..
      · exact List.prefix_rfl
  | flush => exact dumpIfPending_out cfg st
  | writeBlock n p => exact (dumpIfPending_out cfg st).trans (List.prefix_append ..)

theorem run_out (st : WState) (ops : List Op) : st.out <+: (run enc validate cfg st ops).out := by
  induction ops generalizing st with
  | nil => exact List.prefix_rfl
  | cons op ops ih => exact (step_out enc validate cfg st op).trans (ih _)

variable {enc dec validate cfg nfOf}

theorem runG_fst (sg : WState × Ghost) (ops : List Op) :
    (runG enc dec validate cfg nfOf sg ops).1 = run enc validate cfg sg.1 ops := by
  induction ops generalizing sg with
  | nil => rfl
  | cons op ops ih => exact ih _

theorem inv_init (hdr : Bytes) : WInv dec cfg hdr ⟨hdr, [], 0⟩ ⟨[], [], []⟩ :=
  ⟨(List.append_nil hdr).symm, nofun, rfl, rfl⟩

theorem dump_inv {hdr : Bytes} {st : WState} {g : Ghost} (h : WInv dec cfg hdr st g) :
    WInv dec cfg hdr (dump cfg st) (gDump st g) := by
  obtain ⟨h1, h2, h3, h4⟩ := h
  refine ⟨?_, ?_, rfl, ?_⟩
  · rw [dump, gDump, flat_snoc, h1, List.append_assoc]; rfl
  · exact List.forall_mem_append.2 ⟨h2, List.forall_mem_singleton.2 (readRecords_of_decMany h3)⟩
  · simp [gDump, ← h4]

/-- the `if` is what `gStep` does on `flush` and at the start of `writeBlock`; afterwards nothing is pending -/
theorem dumpIfPending_inv {hdr : Bytes} {st : WState} {g : Ghost} (h : WInv dec cfg hdr st g) :
    WInv dec cfg hdr (dumpIfPending cfg st) (if st.pending.length != 0 || st.count > 0 then gDump st g else g) ∧
      (if st.pending.length != 0 || st.count > 0 then gDump st g else g).pend = [] := by
  unfold dumpIfPending
  split
  · exact ⟨dump_inv h, rfl⟩
  · rename_i hnd
    refine ⟨h, ?_⟩
    obtain ⟨_, _, h3, _⟩ := h
    simp only [bne_iff_ne, ne_eq, gt_iff_lt, Bool.or_eq_true, decide_eq_true_eq, not_or, Decidable.not_not,
      Nat.not_lt, Nat.le_zero_eq] at hnd
    rw [hnd.2, List.eq_nil_of_length_eq_zero hnd.1] at h3
    exact (Prod.mk.inj (Except.ok.inj h3)).1.symm

/-- the second half of `write_block`, once nothing is pending -/
theorem copy_inv {hdr : Bytes} {st : WState} {g : Ghost} (h : WInv dec cfg hdr st g) (hp : g.pend = [])
    {n : Int} {payload : Bytes} (hn : 0 ≤ n) (hrec : (readRecords dec n.toNat payload).2 = none) :
    WInv dec cfg hdr { st with out := st.out ++ blockBytes cfg.codec cfg.sync n payload }
      { g with blocks := g.blocks ++ [⟨n.toNat, payload, (readRecords dec n.toNat payload).1⟩],
               submitted := g.submitted ++ (readRecords dec n.toNat payload).1 } := by
  obtain ⟨h1, h2, h3, h4⟩ := h
  refine ⟨?_, ?_, h3, ?_⟩
  · rw [flat_snoc, h1, List.append_assoc, Blk.bytes, Int.toNat_of_nonneg hn]
  · exact List.forall_mem_append.2 ⟨h2, List.forall_mem_singleton.2 (Prod.ext rfl hrec)⟩
  · simp [← h4, hp]

variable (enc dec validate cfg nfOf)
variable (hext : ∀ p v r q, dec p = .ok (v, r) → dec (p ++ q) = .ok (v, r ++ q))

include hext in
theorem inv_step (hdr : Bytes) (st : WState) (g : Ghost) (op : Op) (h : WInv dec cfg hdr st g)
    (hop : OpOk enc dec nfOf op) :
    WInv dec cfg hdr (step enc validate cfg st op).1 (gStep enc dec validate cfg nfOf st g op) := by
  cases op with
  | write v =>
    rcases step_write_cases enc validate cfg st v with ⟨e, hfail⟩ | ⟨w, hw, hok⟩
    · simp only [gStep, hfail, Option.isSome_some, ↓reduceIte]; exact h
    · simp only [gStep, hok, Option.isSome_none, Bool.false_eq_true, ↓reduceIte, hw]
      obtain ⟨h1, h2, h3, h4⟩ := h
      have hinv' : WInv dec cfg hdr { st with pending := st.pending ++ w, count := st.count + 1 }
          { g with pend := g.pend ++ [nfOf v], submitted := g.submitted ++ [nfOf v] } :=
        ⟨h1, h2, decMany_snoc dec hext _ _ _ _ _ h3 (hop w hw), by simp only [← h4, List.append_assoc]⟩
      split
      · exact dump_inv hinv'
      · exact hinv'
  | flush => exact (dumpIfPending_inv h).1
  | writeBlock n payload => exact copy_inv (dumpIfPending_inv h).1 (dumpIfPending_inv h).2 hop.1 hop.2

include hext in
theorem flush_reads_back (hs : cfg.codec.Sound) (hsync : cfg.sync.length = 16)
    (hdr : Bytes) (st : WState) (g : Ghost) (h : WInv dec cfg hdr st g)
    (hfit : ∀ b ∈ (gStep enc dec validate cfg nfOf st g .flush).blocks,
        b.count < 2 ^ 63 ∧ (cfg.codec.compress b.payload).length < 2 ^ 63)
    (k : Nat) (hk : (gStep enc dec validate cfg nfOf st g .flush).blocks.length < k) :
    ∃ area, (step enc validate cfg st .flush).1.out = hdr ++ area ∧
      readBlocks dec cfg.codec cfg.sync k area = ((gStep enc dec validate cfg nfOf st g .flush).submitted, .eof) := by
  obtain ⟨h1, h2, _, h4⟩ := inv_step enc dec validate cfg nfOf hext hdr st g .flush h trivial
  have hpend : (gStep enc dec validate cfg nfOf st g .flush).pend = [] := (dumpIfPending_inv h).2
  rw [hpend, List.append_nil] at h4
  exact ⟨_, h1, by rw [read_flat dec cfg.codec hs cfg.sync hsync _ (fun b hb => ⟨h2 b hb, hfit b hb⟩) k hk, h4]⟩

variable {enc dec nfOf}

include hext

theorem inv_run {hdr : Bytes} {sg : WState × Ghost} (h : WInv dec cfg hdr sg.1 sg.2)
    {ops : List Op} (hops : ∀ op ∈ ops, OpOk enc dec nfOf op) :
    WInv dec cfg hdr (runG enc dec validate cfg nfOf sg ops).1 (runG enc dec validate cfg nfOf sg ops).2 := by
  induction ops generalizing sg with
  | nil => exact h
  | cons op ops ih =>
    exact ih (inv_step enc dec validate cfg nfOf hext hdr sg.1 sg.2 op h (hops op List.mem_cons_self))
      fun o ho => hops o (List.mem_cons_of_mem _ ho)

theorem inv_history (hdr : Bytes) {ops : List Op} (hops : ∀ op ∈ ops, OpOk enc dec nfOf op) :
    WInv dec cfg hdr (runG enc dec validate cfg nfOf (⟨hdr, [], 0⟩, ⟨[], [], []⟩) ops).1
      (runG enc dec validate cfg nfOf (⟨hdr, [], 0⟩, ⟨[], [], []⟩) ops).2 :=
  inv_run validate cfg hext (inv_init hdr) hops

end
end WriterProofs
