/-
  Proofs/GenerateTerm.lean — C20, termination of `gen_data`: a loop of the generator runs out of budget only if an
  element does; on a type that refers to itself through an array no budget is enough (finding F6).
-/
import Model.Generate
import Proofs.R

namespace GenTerm
open Generate R

mutual
/-- no by-name reference, no logical annotation: the schema is a finite tree -/
def treeS : Schema → Bool
  | .prim _ _ lt => lt.isNone
  | .fixed _ _ lt _ => lt.isNone
  | .enum .. => true
  | .array i => treeS i
  | .map v => treeS v
  | .union bs => treeL bs
  | .record _ fs _ => treeF fs
  | .ref _ => false
def treeL : List Schema → Bool
  | [] => true
  | b :: bs => treeS b && treeL bs
def treeF : List Field → Bool
  | [] => true
  | .mk _ t _ _ :: fs => treeS t && treeF fs
end

mutual
def depthS : Schema → Nat
  | .array i => depthS i + 1
  | .map v => depthS v + 1
  | .union bs => depthL bs + 1
  | .record _ fs _ => depthF fs + 1
  | _ => 1
def depthL : List Schema → Nat
  | [] => 0
  | b :: bs => max (depthS b) (depthL bs)
def depthF : List Field → Nat
  | [] => 0
  | .mk _ t _ _ :: fs => max (depthS t) (depthF fs)
end

theorem randint_no_fuel (a b : Int) (ρ : Rand) (i : Nat) : randint a b ρ i ≠ .error .fuel := by
  unfold randint; split <;> simp

theorem items_no_fuel (g : Nat → R (Val × Nat)) (hg : ∀ i, g i ≠ .error .fuel) : ∀ n i, genItemsWith g n i ≠ .error .fuel := by
  intro n
  induction n with
  | zero => exact fun i => nofun
  | succ n ih => exact fun i => bind_ne_error (hg i) fun _ => bind_ne_error (ih _) fun _ => nofun

theorem entries_no_fuel (g : Nat → R (Val × Nat)) (ρ : Rand) (hg : ∀ i, g i ≠ .error .fuel) :
    ∀ n i acc, genEntriesWith g ρ n i acc ≠ .error .fuel := by
  intro n
  induction n with
  | zero => exact fun i acc => nofun
  | succ n ih => exact fun i acc => bind_ne_error (hg _) fun _ => ih _ _

theorem fields_no_fuel (g : Schema → Nat → R (Val × Nat)) :
    ∀ (fs : List Field), (∀ f ∈ fs, ∀ i, g f.type i ≠ .error .fuel) → ∀ i acc, genFieldsWith g fs i acc ≠ .error .fuel := by
  intro fs
  induction fs with
  | nil => exact fun _ i acc => nofun
  | cons f rest ih =>
    exact fun hg i acc => bind_ne_error (hg f (by simp) i) fun _ => ih (fun f' hf' => hg f' (by simp [hf'])) _ _

theorem treeL_mem {bs : List Schema} {b : Schema} (ht : treeL bs = true) (hb : b ∈ bs) :
    treeS b = true ∧ depthS b ≤ depthL bs := by
  induction bs with
  | nil => cases hb
  | cons b0 bs ih =>
    rw [treeL, Bool.and_eq_true] at ht
    rw [depthL]
    rcases List.mem_cons.mp hb with rfl | hb
    · exact ⟨ht.1, Nat.le_max_left ..⟩
    · exact ⟨(ih ht.2 hb).1, Nat.le_trans (ih ht.2 hb).2 (Nat.le_max_right ..)⟩

theorem treeF_mem {fs : List Field} {f : Field} (ht : treeF fs = true) (hf : f ∈ fs) :
    treeS f.type = true ∧ depthS f.type ≤ depthF fs := by
  induction fs with
  | nil => cases hf
  | cons f0 fs ih =>
    obtain ⟨n0, t0, d0, a0⟩ := f0
    rw [treeF, Bool.and_eq_true] at ht
    rw [depthF]
    rcases List.mem_cons.mp hf with rfl | hf
    · exact ⟨ht.1, Nat.le_max_left ..⟩
    · exact ⟨(ih ht.2 hf).1, Nat.le_trans (ih ht.2 hf).2 (Nat.le_max_right ..)⟩

def c20node : Schema := .record "Node" [.mk "children" (.array (.ref "Node")) none []] []
def c20env : Env := [("Node", c20node)]

theorem never_returns (ρ : Rand) : ∀ (fuel : Nat) (i : Nat),
    genData fuel c20env ρ (.ref "Node") i = .error .fuel ∧ genData fuel c20env ρ c20node i = .error .fuel ∧
    genData fuel c20env ρ (.array (.ref "Node")) i = .error .fuel := by
  intro fuel
  induction fuel with
  | zero => intro i; simp [genData]
  | succ fuel ih =>
    intro i
    refine ⟨?_, ?_, ?_⟩
    · have : c20env.get? "Node" = some c20node := rfl
      simp only [genData, this]
      exact (ih i).2.1
    · simp only [c20node, genData, genFieldsWith, Field.type, bind, Except.bind]
      rw [(ih i).2.2]
    · simp only [genData, genItemsWith, bind, Except.bind]
      rw [(ih i).1]

end GenTerm
