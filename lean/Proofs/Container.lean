/-
  Proofs/Container.lean — the block area of a container file (C04–C06).  The record reader rests on one equation:
  what it does on `blocks ++ rest` (`readBlocks_flat_append`); a cut is located by `flat_cut` and judged by
  `readBlocks_cut`.  The block-info reader `readBlockInfos` (C05) has an induction of its own (`readBlockInfos_block`,
  `infos_flat`).  Generic in the record decoder `dec` and the codec.
-/
import Model.Container
import Proofs.Basic
import Proofs.Stable
import Proofs.List

namespace ContainerProofs
open Binary Container BasicProofs

/-- a block as an independent writer or fastavro's `dump` lays it out -/
structure Blk where
  count : Nat
  payload : Bytes
  recs : List Val

def Blk.bytes (c : Codec) (sync : Bytes) (b : Blk) : Bytes := blockBytes c sync b.count b.payload

/-- bytes after the `count` records inside the payload are ignored -/
def Blk.Ok (dec : Bytes → R (Val × Bytes)) (c : Codec) (b : Blk) : Prop :=
  readRecords dec b.count b.payload = (b.recs, none) ∧ b.count < 2 ^ 63 ∧ (c.compress b.payload).length < 2 ^ 63

def flat (c : Codec) (sync : Bytes) (bs : List Blk) : Bytes := bs.flatMap (Blk.bytes c sync)

/- A trap: where `flat_nil` leaves `[] ++ X` in front of a block, remove it by `rw [List.nil_append]`.  As a `simp`
   step `List.nil_append` is a `rfl`-rewrite; the kernel compares `[] ++ (lenBytes ↑a ++ (lenBytes ↑b ++ Y))` with
   `lenBytes ↑a ++ (lenBytes ↑b ++ Y)` argument by argument first and comes to decide `lenBytes ↑a ≡ lenBytes ↑b`,
   the varint loop on two open terms: seconds.  (`flat_nil`, `flat_cons` themselves are harmless under `simp only`.) -/
theorem flat_nil (c : Codec) (sync : Bytes) : flat c sync [] = [] := rfl

theorem flat_cons (c : Codec) (sync : Bytes) (b : Blk) (bs : List Blk) :
    flat c sync (b :: bs) = b.bytes c sync ++ flat c sync bs := rfl

theorem flat_snoc (c : Codec) (sync : Bytes) (bs : List Blk) (b : Blk) :
    flat c sync (bs ++ [b]) = flat c sync bs ++ b.bytes c sync := by
  rw [flat, flat, List.flatMap_append, List.flatMap_singleton]

theorem flat_cut {c : Codec} {sync : Bytes} {bs : List Blk} {p q : Bytes} (h : p ++ q = flat c sync bs) :
    ∃ j p', j ≤ bs.length ∧ p = flat c sync (bs.take j) ++ p' ∧
      (p' = [] ∨ ∃ b t, bs[j]? = some b ∧ t ≠ [] ∧ p' ++ t = b.bytes c sync) :=
  List.prefix_flatMap _ bs p q h

theorem lenBytes_eq {n : Nat} (h : n < 2 ^ 63) : lenBytes (n : Int) = Spec.encodeLong (n : Int) := by
  rw [lenBytes, encLen_eq n h]; rfl

theorem lenBytes_decode {n : Nat} (h : n < 2 ^ 63) (rest : Bytes) :
    decodeLong (lenBytes (n : Int) ++ rest) = .ok ((n : Int), rest) := by
  rw [lenBytes_eq h]; exact VarintProofs.decode_spec _ rest

theorem lenBytes_ne_nil (n : Nat) (h : n < 2 ^ 63) : lenBytes (n : Int) ≠ [] := by
  intro he
  have := lenBytes_decode h []
  rw [he] at this
  simp [decodeLong] at this

theorem decBytesRaw_lenBytes {b : Bytes} (hl : b.length < 2 ^ 63) (rest : Bytes) :
    decBytesRaw (lenBytes (b.length : Int) ++ (b ++ rest)) = .ok (b, rest) := by
  rw [lenBytes_eq hl]; exact lenPrefixed_decode b rest

theorem payload_decode {c : Codec} (hs : c.Sound) {p : Bytes} (hl : (c.compress p).length < 2 ^ 63) (rest : Bytes) :
    readPayload c (lenBytes ((c.compress p).length : Int) ++ (c.compress p ++ rest)) = .ok (p, rest) := by
  simp only [readPayload, decBytesRaw_lenBytes hl, bind, Except.bind, hs p, pure, Except.pure]

theorem take_sync {sync : Bytes} (h : sync.length = 16) (rest : Bytes) :
    (sync ++ rest).take SYNC_SIZE = sync ∧ (sync ++ rest).drop SYNC_SIZE = rest := by
  unfold SYNC_SIZE; rw [← h]; simp

theorem readBlocks_nil (dec : Bytes → R (Val × Bytes)) (c : Codec) (sync : Bytes) (k : Nat) :
    readBlocks dec c sync (k + 1) [] = ([], .eof) := rfl

/-- count, length and payload of a well-formed block; the marker is whatever comes next -/
theorem readBlocks_body {dec : Bytes → R (Val × Bytes)} {c : Codec} (hs : c.Sound) (sync : Bytes)
    {b : Blk} (hb : b.Ok dec c) (k : Nat) (tail : Bytes) :
    readBlocks dec c sync (k + 1) (lenBytes ↑b.count ++ (lenBytes ↑(c.compress b.payload).length ++
        (c.compress b.payload ++ tail))) =
      if tail.take SYNC_SIZE != sync then (b.recs, .error .value)
      else (b.recs ++ (readBlocks dec c sync k (tail.drop SYNC_SIZE)).1,
            (readBlocks dec c sync k (tail.drop SYNC_SIZE)).2) := by
  obtain ⟨hrec, hc, hl⟩ := hb
  rw [readBlocks, lenBytes_decode hc]
  simp only [payload_decode hs hl, Int.toNat_natCast, hrec]

theorem readBlocks_block {dec : Bytes → R (Val × Bytes)} {c : Codec} (hs : c.Sound) {sync : Bytes} (hsync : sync.length = 16)
    {b : Blk} (hb : b.Ok dec c) (k : Nat) (rest : Bytes) :
    readBlocks dec c sync (k + 1) (b.bytes c sync ++ rest) =
      (b.recs ++ (readBlocks dec c sync k rest).1, (readBlocks dec c sync k rest).2) := by
  obtain ⟨t1, t2⟩ := take_sync hsync rest
  simp only [Blk.bytes, blockBytes, List.append_assoc, readBlocks_body hs sync hb, t1, t2, bne_self_eq_false,
    Bool.false_eq_true, ↓reduceIte]

theorem readBlocks_flat_append {dec : Bytes → R (Val × Bytes)} {c : Codec} (hs : c.Sound) {sync : Bytes}
    (hsync : sync.length = 16) {bs : List Blk} (hok : ∀ b ∈ bs, b.Ok dec c) (k : Nat) (rest : Bytes) :
    readBlocks dec c sync (bs.length + k) (flat c sync bs ++ rest) =
      (bs.flatMap (·.recs) ++ (readBlocks dec c sync k rest).1, (readBlocks dec c sync k rest).2) := by
  induction bs with
  | nil => rw [flat_nil, List.nil_append, List.length_nil, Nat.zero_add]; rfl
  | cons b bs ih =>
    rw [flat_cons, List.append_assoc, List.length_cons, Nat.add_right_comm,
      readBlocks_block hs hsync (hok b List.mem_cons_self),
      ih (fun x hx => hok x (List.mem_cons_of_mem _ hx)), List.flatMap_cons, List.append_assoc]

theorem read_flat (dec : Bytes → R (Val × Bytes)) (c : Codec) (hs : c.Sound) (sync : Bytes) (hsync : sync.length = 16)
    (bs : List Blk) (hok : ∀ b ∈ bs, b.Ok dec c) (k : Nat) (hk : bs.length < k) :
    readBlocks dec c sync k (flat c sync bs) = (bs.flatMap (·.recs), .eof) := by
  obtain ⟨k, rfl⟩ := Nat.exists_eq_add_of_lt hk
  have := readBlocks_flat_append hs hsync hok (k + 1) []
  rwa [List.append_nil, readBlocks_nil, List.append_nil, ← Nat.add_assoc] at this

theorem decodeLong_prefix {n : Nat} (hn : n < 2 ^ 63) {p t : Bytes} (hpt : p ++ t = lenBytes (n : Int)) (ht : t ≠ []) :
    ∃ e, decodeLong p = .error e :=
  Stable.prefix_free (Stable.decodeLong_ext p) (by rw [hpt]; simpa using lenBytes_decode hn []) ht

/-- rejected by the length check of `read_bytes`, before any decompression: no `c.Sound` -/
theorem readPayload_prefix {c : Codec} {pl : Bytes} (hl : (c.compress pl).length < 2 ^ 63)
    {p t : Bytes} (hpt : p ++ t = lenBytes ((c.compress pl).length : Int) ++ c.compress pl) (ht : t ≠ []) :
    ∃ e, readPayload c p = .error e := by
  obtain ⟨e, hd⟩ := Stable.prefix_free (Stable.decBytesRaw_ext p) (by rw [hpt]; simpa using decBytesRaw_lenBytes hl []) ht
  exact ⟨e, by rw [readPayload, hd]; rfl⟩

/-- a block cut short: nothing is yielded and the end is not a normal one (unless nothing at all was
    left of the block), or, when only the marker is cut, the block's records and then ValueError -/
theorem readBlocks_cut {dec : Bytes → R (Val × Bytes)} {c : Codec} (hs : c.Sound) {sync : Bytes} {b : Blk} (hb : b.Ok dec c)
    (k : Nat) {p t : Bytes} (ht : t ≠ []) (hpt : p ++ t = b.bytes c sync) :
    (∃ e, readBlocks dec c sync (k + 1) p = ([], e) ∧ (e = .eof → p = [])) ∨
      readBlocks dec c sync (k + 1) p = (b.recs, .error .value) := by
  have ⟨_, hc, hl⟩ := hb
  simp only [Blk.bytes, blockBytes] at hpt
  rcases List.split_cases hpt with ⟨p₁, rfl, h1⟩ | ⟨t₁, ht₁, h1, _⟩
  · rw [← List.append_assoc] at h1
    rcases List.split_cases h1.symm with ⟨p₂, rfl, h2⟩ | ⟨t₂, ht₂, h2, _⟩
    · -- the cut is inside the marker: what is left of it is shorter than a marker
      have hlen : p₂.length < sync.length := by
        rw [h2, List.length_append]; exact Nat.lt_add_of_pos_right (List.length_pos_iff.mpr ht)
      have hbad : (p₂.take SYNC_SIZE != sync) = true := by
        rw [bne_iff_ne]; intro h
        have := congrArg List.length h; rw [List.length_take] at this; omega
      right
      rw [List.append_assoc, readBlocks_body hs sync hb, if_pos hbad]
    · -- inside `length ++ payload`
      obtain ⟨e, he⟩ := readPayload_prefix hl h2.symm ht₂
      refine .inl ⟨.error e, ?_, nofun⟩
      rw [readBlocks, lenBytes_decode hc]; simp only [he]
  · -- inside the count
    cases p with
    | nil => exact .inl ⟨.eof, readBlocks_nil .., fun _ => rfl⟩
    | cons x p =>
      obtain ⟨e, he⟩ := decodeLong_prefix hc h1.symm ht₁
      obtain rfl := VarintProofs.decodeLong_err_nonempty (List.cons_ne_nil x p) he
      exact .inl ⟨.error .type, by rw [readBlocks, he], nofun⟩

theorem readBlockInfos_block {c : Codec} (hs : c.Sound) {sync : Bytes} (hsync : sync.length = 16)
    {b : Blk} (hc : b.count < 2 ^ 63) (hl : (c.compress b.payload).length < 2 ^ 63) (k off : Nat) (rest : Bytes) :
    readBlockInfos c sync (k + 1) off (b.bytes c sync ++ rest) =
      (⟨off, (b.bytes c sync).length, b.count, b.payload⟩ ::
        (readBlockInfos c sync k (off + (b.bytes c sync).length) rest).1,
       (readBlockInfos c sync k (off + (b.bytes c sync).length) rest).2) := by
  obtain ⟨t1, t2⟩ := take_sync hsync rest
  have hsz : (b.bytes c sync ++ rest).length - rest.length = (b.bytes c sync).length := by
    rw [List.length_append]; omega
  rw [readBlockInfos, ← hsz]
  simp only [Blk.bytes, blockBytes, List.append_assoc, lenBytes_decode hc, payload_decode hs hl,
    t1, t2, bne_self_eq_false, Bool.false_eq_true, ↓reduceIte]

theorem infos_flat {c : Codec} (hs : c.Sound) {sync : Bytes} (hsync : sync.length = 16) {bs : List Blk}
    (hfit : ∀ b ∈ bs, b.count < 2 ^ 63 ∧ (c.compress b.payload).length < 2 ^ 63) {k : Nat} (off : Nat) (hk : bs.length < k) :
    ∃ infos, readBlockInfos c sync k off (flat c sync bs) = (infos, .eof) ∧
      infos.map (·.numRecords) = bs.map (fun b => (b.count : Int)) ∧
      infos.map (·.payload) = bs.map (·.payload) ∧
      -- contiguous: each block starts where the previous one ended, the last one ends at the end
      (infos.foldl (fun (acc : Option Nat) i => acc.bind fun o => if i.offset = o then some (o + i.size) else none)
        (some off)) = some (off + (flat c sync bs).length) := by
  induction bs generalizing k off with
  | nil =>
    obtain ⟨k, rfl⟩ := Nat.exists_eq_add_of_lt hk
    exact ⟨[], rfl, rfl, rfl, rfl⟩
  | cons b bs ih =>
    obtain ⟨k, rfl⟩ : ∃ k', k = k' + 1 := ⟨k - 1, by omega⟩
    obtain ⟨hc, hl⟩ := hfit b List.mem_cons_self
    obtain ⟨infos, h1, h2, h3, h4⟩ := ih (fun y hy => hfit y (List.mem_cons_of_mem _ hy))
      (off + (b.bytes c sync).length) (by simpa using hk)
    refine ⟨_, by rw [flat_cons, readBlockInfos_block hs hsync hc hl, h1], ?_, ?_, ?_⟩
    · simp [h2]
    · simp [h3]
    · simp only [List.foldl_cons, Option.bind_some, ↓reduceIte, h4, flat_cons, List.length_append, Nat.add_assoc]

end ContainerProofs
