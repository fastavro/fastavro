/-
  Proofs/JsonMachineDec.lean — the READ side of the push-down machine (fastavro/io/parser.py driven by `read_data`
  with AvroJSONDecoder: Model/JsonMachine.lean, `JM.mDecode` / `JM.decodeAll`) returns what the function-level
  reader (Model/Json.lean: `Json.decode`) returns.

  The idea.  `Parser.advance` executes grammar actions lazily, so between two values some actions are still pending on
  the symbol stack (Proofs/JsonGrammar.lean, shared with the write side, says how the next `advance` runs them).  One
  value is therefore described from the state `d1` the pending actions LEAD to: before it (`DEntry`) the value's
  symbol lies behind pending actions and `d1` holds the JSON value where the decoder will look for it (`At`: under the
  current key of the current object, as the current value itself, or — key absent — as the symbol's default); after
  it (`DExit`) only closing actions are pending, and they lead to a state that is `After d1`: stack, key and document
  queue as in `d1`, the current object too except under the current key (`SameElse`: `read_index` overwrites the
  union member it unwraps).  `After` is a preorder, so values compose.  `DSound` says that `mDecode` takes every
  `DEntry` to such a `DExit` with the function-level reader's result; it is proved by induction on the nesting depth,
  one lemma per schema kind (`DSoundAt`).
  Containers push a frame when they start (`pushAdjust_at`) and pop it when they end (`After.pop`).  What makes them
  hard is that the iterators pop their own frame BEFORE the actions the last value left pending are executed.  For
  `iter_array` this is harmless, pops commute (`runD_pop_comm`).  `iter_map` goes on to `del` the entry's key from the
  object in the frame it popped: that is the map object only if the value left no pop pending, or exactly its own
  `RecordEnd` — then the frame popped is the one `RecordStart` pushed, which also holds the map object and the key, and
  the pending `RecordEnd` later pops `iter_map`'s next frame, so the frame stack lags one behind (`MapStG`).
  A whole text (`decodeAll_sound`): `drain_actions` executes what the last value left pending and the root symbol
  restarts the grammar.  The hypotheses of the theorems are explained in Properties/C15.lean, `DOk` also at its definition.
-/
import Proofs.JsonGrammar
import Proofs.JsonBack
import Proofs.Dict
import Proofs.Basic
import Proofs.Schema

namespace JMDec
open JM Binary Json JMProofs JsonBack Dict

def runD : List Sym → Dec → R Dec
  | [], d => .ok d
  | a :: as, d => match decAct a d with
    | .ok d' => runD as d'
    | .error x => .error x

theorem runD_eq : runD = JMProofs.run decAct := by
  funext acts
  induction acts with
  | nil => rfl
  | cons a as ih => funext d; simp only [runD, JMProofs.run, bind, Except.bind, ih]; cases decAct a d <;> rfl

theorem runD_append (xs ys : List Sym) (d : Dec) : runD (xs ++ ys) d = runD xs d >>= runD ys := by
  rw [runD_eq]; exact run_append decAct xs ys d

def endAct : Sym → Bool
  | .fieldEnd | .unionEnd | .recordEnd => true
  | _ => false

def noPop : Sym → Bool
  | .fieldEnd | .unionEnd => true
  | _ => false

theorem endAct_simple {a : Sym} (h : endAct a = true) : simple a = true := by
  cases a <;> simp [endAct] at h <;> rfl

theorem noPop_endAct {a : Sym} (h : noPop a = true) : endAct a = true := by
  cases a <;> simp [noPop] at h <;> rfl

theorem noPop_simple {np : List Sym} (hnp : ∀ a ∈ np, noPop a = true) : ∀ a ∈ np, simple a = true :=
  fun a ha => endAct_simple (noPop_endAct (hnp a ha))

theorem runD_noPop (acts : List Sym) (d : Dec) (h : ∀ a ∈ acts, noPop a = true) : runD acts d = .ok d := by
  induction acts with
  | nil => rfl
  | cons a as ih =>
    have ha := h a (by simp)
    have : decAct a d = .ok d := by cases a <;> simp [noPop] at ha <;> rfl
    simp only [runD, this]
    exact ih (fun b hb => h b (by simp [hb]))

theorem runD_pop_comm (acts : List Sym) (h : ∀ a ∈ acts, endAct a = true) :
    ∀ (d d3 d4 : Dec), runD acts d = .ok d3 → d3.pop = .ok d4 → ∃ d', d.pop = .ok d' ∧ runD acts d' = .ok d4 := by
  induction acts with
  | nil => intro d d3 d4 hr hp; cases hr; exact ⟨d4, hp, rfl⟩
  | cons a as ih =>
    intro d d3 d4 hr hp
    simp only [runD] at hr
    cases hda : decAct a d with
    | error x => rw [hda] at hr; cases hr
    | ok d1 =>
      rw [hda] at hr
      obtain ⟨d1', hp1, hr1⟩ := ih (fun b hb => h b (by simp [hb])) d1 d3 d4 hr hp
      have ha := h a (by simp)
      -- `FieldEnd`, `UnionEnd` do nothing; for `RecordEnd` the pop asked for is the one it does, and it does the next
      cases a <;> simp [endAct] at ha
      · cases hda; exact ⟨d1', hp1, hr1⟩
      · exact ⟨d1, hda, by simp only [runD, decAct, hp1]; exact hr1⟩
      · cases hda; exact ⟨d1', hp1, hr1⟩

def SameElse (s : String) (kv kv' : List (Val × Val)) : Prop := kv' = kv ∨ ∃ x, kv' = valDictSet kv s x

theorem sameElse_refl (s : String) (kv : List (Val × Val)) : SameElse s kv kv := .inl rfl

theorem sameElse_trans {s : String} {a b c : List (Val × Val)} (h1 : SameElse s a b) (h2 : SameElse s b c) : SameElse s a c := by
  rcases h1 with rfl | ⟨x, rfl⟩
  · exact h2
  · rcases h2 with rfl | ⟨y, rfl⟩
    · exact .inr ⟨x, rfl⟩
    · exact .inr ⟨y, valDictSet_idem a s x y⟩

theorem sameElse_get {s : String} {kv kv' : List (Val × Val)} (h : SameElse s kv kv') (t : String) (ht : t ≠ s) :
    dictGetV kv' t = dictGetV kv t := by
  rcases h with rfl | ⟨x, rfl⟩
  · rfl
  · exact get_set_other kv s t x ht

theorem absentField_eq (env : Env) (t : Schema) (dv : Val) : absentField env t (some dv) = .ok (absentWrap env t dv) := by
  unfold absentField absentWrap
  cases h : unwrapRef env t with
  | union bs => cases bs with
    | nil => rfl
    | cons b rest => simp only [pure, Except.pure]; split <;> rfl
  | _ => rfl

/-- `direct`: top of a document, item of an array, value of a union outside an object.  `absent`: `j` is what the
    function-level reader makes of the symbol's default `dv` for the schema `s` of the value; for the last clause see `dunion` -/
inductive At (env : Env) (s : Schema) (d : Dec) (dflt : Option Val) (j : Val) : Prop
  | keyed (kv : List (Val × Val)) (k : String) : d.current = .dict kv → d.key = .str k → dictGetV kv k = some j → At env s d dflt j
  | direct : d.current = j → d.key = .none → At env s d dflt j
  | absent (kv : List (Val × Val)) (k : String) (dv : Val) : d.current = .dict kv → d.key = .str k → dictGetV kv k = none →
      dflt = some dv → j = absentWrap env s dv →
      (∀ b rest, unwrapRef env s = .union (b :: rest) → isNullBranch env b = true → dv = .none) → At env s d dflt j

theorem At.split {env : Env} {s : Schema} {d : Dec} {dflt : Option Val} {j : Val} (h : At env s d dflt j) :
    (∀ s', At env s' d none j) ∨ ∃ kv k dv, d.current = .dict kv ∧ d.key = .str k ∧ dictGetV kv k = none ∧ dflt = some dv ∧
      j = absentWrap env s dv ∧ ∀ b rest, unwrapRef env s = .union (b :: rest) → isNullBranch env b = true → dv = .none := by
  cases h with
  | keyed kv k hc hk hg => exact .inl fun _ => .keyed kv k hc hk hg
  | direct hc hk => exact .inl fun _ => .direct hc hk
  | absent kv k dv hc hk hg hd hj hn => exact .inr ⟨kv, k, dv, hc, hk, hg, hd, hj, hn⟩

theorem At.retype {env : Env} {s s' : Schema} {d : Dec} {dflt : Option Val} {j : Val} (h : At env s d dflt j)
    (hu : unwrapRef env s = unwrapRef env s') : At env s' d dflt j := by
  cases h with
  | keyed kv k hc hk hg => exact .keyed kv k hc hk hg
  | direct hc hk => exact .direct hc hk
  | absent kv k dv hc hk hg hd hj hn =>
    exact .absent kv k dv hc hk hg hd (by rw [hj]; unfold absentWrap; rw [hu]) (by intro b rest h1 h2; exact hn b rest (hu ▸ h1) h2)

theorem fieldVal_dec {env : Env} {kv : List (Val × Val)} {f : Field} {x : Val} (h : FieldVal env kv f x) :
    (match dictGetV kv f.name with
      | some x => (pure x : R Val)
      | none => absentField env f.type f.default) = .ok x := by
  rcases h with h | ⟨h, dv, hd, rfl, _⟩
  · rw [h]; rfl
  · rw [h, hd]; exact absentField_eq env f.type dv

theorem decFields_step {env : Env} {kv : List (Val × Val)} {fld : Field} {x : Val} (h : FieldVal env kv fld x)
    (g : Schema → Val → R Val) (rest : List Field) (acc : List (Val × Val)) :
    decFieldsWith env g (fld :: rest) kv acc = g fld.type x >>= fun a => decFieldsWith env g rest kv (valDictSet acc fld.name a) := by
  rcases h with h | ⟨h, dv, hd, rfl, _⟩
  · simp only [decFieldsWith, h]; rfl
  · simp only [decFieldsWith, h, hd, absentField_eq]; rfl

theorem fieldVal_at {env : Env} {kvj kvR : List (Val × Val)} {f : Field} {x : Val} {dR : Dec} (h : FieldVal env kvj f x)
    (hcur : dR.current = .dict kvR) (hag : dictGetV kvR f.name = dictGetV kvj f.name) :
    At env f.type { dR with key := .str f.name } f.default x := by
  rcases h with h | ⟨h, dv, hd, hx, hn⟩
  · exact .keyed kvR f.name hcur rfl (by rw [hag]; exact h)
  · exact .absent kvR f.name dv hcur rfl (by rw [hag]; exact h) hd hx hn

structure After (d1 d3 : Dec) : Prop where
  stack : d3.stack = d1.stack
  key : d3.key = d1.key
  data : d3.data = d1.data
  done : d3.done = d1.done
  cur : ∀ kv s, d1.current = .dict kv → d1.key = .str s → ∃ kv', d3.current = .dict kv' ∧ SameElse s kv kv'

theorem After.refl (d : Dec) : After d d :=
  ⟨rfl, rfl, rfl, rfl, fun kv s h _ => ⟨kv, h, sameElse_refl s kv⟩⟩

theorem After.trans {d1 d2 d3 : Dec} (h1 : After d1 d2) (h2 : After d2 d3) : After d1 d3 := by
  refine ⟨h2.stack.trans h1.stack, h2.key.trans h1.key, h2.data.trans h1.data, h2.done.trans h1.done, fun kv s hc hk => ?_⟩
  obtain ⟨kv2, hc2, hs2⟩ := h1.cur kv s hc hk
  obtain ⟨kv3, hc3, hs3⟩ := h2.cur kv2 s hc2 (h1.key.trans hk)
  exact ⟨kv3, hc3, sameElse_trans hs2 hs3⟩

theorem After.rebind (d : Dec) (kv : List (Val × Val)) (s : String) (x : Val) (hc : d.current = .dict kv) (hk : d.key = .str s) :
    After d { d with current := .dict (valDictSet kv s x) } :=
  ⟨rfl, rfl, rfl, rfl, fun kv' s' hc' hk' => by
    rw [hc] at hc'; rw [hk] at hk'; cases hc'; cases hk'; exact ⟨_, rfl, .inr ⟨x, rfl⟩⟩⟩

theorem After.pop {d1 d : Dec} (hs : d.stack = (d1.current, d1.key) :: d1.stack) (hd : d.data = d1.data)
    (hn : d.done = d1.done) : ∃ d3, d.pop = .ok d3 ∧ After d1 d3 :=
  ⟨{ d with stack := d1.stack, current := d1.current, key := d1.key }, by simp only [Dec.pop, hs],
    rfl, rfl, hd, hn, fun kv s h _ => ⟨kv, h, sameElse_refl s kv⟩⟩

/-- `JMProofs.Entry` for the decoder -/
structure DEntry (st : DS) (acts : List Sym) (G : Sym) (rest : List Sym) (d1 : Dec) : Prop where
  eqv : ∀ k, (k == TK.arrayEnd) = false → (k == TK.mapEnd) = false → ∀ d,
    advL decAct k st.ps d = advL decAct k (acts ++ G :: rest) d
  simp : ∀ a ∈ acts, simple a = true
  run : runD acts st.d = .ok d1

/-- `flat` and `rec1` (in `DSound`: `Flat env s`, `Rec1 env s`) say how many of the pending actions pop — none, or exactly
    the last —, so that one statement serves flat and record-valued map values: consumed by `dentriesG`, produced by `dfields` -/
def DExit (st' : DS) (rest : List Sym) (d1 : Dec) (flat rec1 : Prop) : Prop :=
  ∃ acts', st'.ps = acts' ++ rest ∧ (∀ a ∈ acts', endAct a = true) ∧ (flat → ∀ a ∈ acts', noPop a = true) ∧
    (rec1 → ∃ np, acts' = np ++ [.recordEnd] ∧ ∀ a ∈ np, noPop a = true) ∧
    ∃ d3, runD acts' st'.d = .ok d3 ∧ After d1 d3

theorem DEntry.of_ps {st : DS} {acts : List Sym} {G : Sym} {rest : List Sym} {d1 : Dec} (hps : st.ps = acts ++ G :: rest)
    (hs : ∀ a ∈ acts, simple a = true) (hr : runD acts st.d = .ok d1) : DEntry st acts G rest d1 :=
  ⟨fun _ _ _ _ => by rw [hps], hs, hr⟩

theorem DEntry.top (G : Sym) (rest : List Sym) (d : Dec) : DEntry ⟨G :: rest, d⟩ [] G rest d :=
  .of_ps rfl nofun rfl

theorem DEntry.seq {st : DS} {acts : List Sym} {x : Sym} {prod rest : List Sym} {d1 : Dec}
    (h : DEntry st acts (.seq (x :: prod)) rest d1) : DEntry st acts x (prod ++ rest) d1 :=
  ⟨Behaves.trans h.eqv (Behaves.under h.simp (behaves_seq _ _)), h.simp, h.run⟩

theorem DEntry.act {st : DS} {acts : List Sym} {a G : Sym} {rest : List Sym} {d1 d2 : Dec} (h : DEntry st acts a (G :: rest) d1)
    (ha : simple a = true) (hd : decAct a d1 = .ok d2) : DEntry st (acts ++ [a]) G rest d2 :=
  ⟨by simpa using h.eqv, simple_snoc h.simp ha, by rw [runD_append, h.run]; simp only [R.ok_bind, runD, hd]⟩

theorem DEntry.adv {st : DS} {acts : List Sym} {k : TK} {d : Option Val} {rest : List Sym} {d1 : Dec}
    (h : DEntry st acts (.term k d) rest d1) (h1 : (k == TK.arrayEnd) = false := by rfl)
    (h2 : (k == TK.mapEnd) = false := by rfl) : st.advance k = .ok (.term k d, ⟨rest, d1⟩) := by
  have hr := h.run
  rw [runD_eq] at hr
  simp only [DS.advance, advance_term k h.eqv h.simp hr h1 h2]; rfl

/-- `read_array_end` / `read_map_end`: `dB`, where the pending actions lead, has on top the frame pushed at `d1` -/
theorem dend {st : DS} {pa body rest : List Sym} {k : TK} {dB d1 : Dec} (hps : st.ps = pa ++ .rep k body :: rest)
    (hs : ∀ a ∈ pa, simple a = true) (hr : runD pa st.d = .ok dB) (hstk : dB.stack = (d1.current, d1.key) :: d1.stack)
    (hd : dB.data = d1.data) (hdn : dB.done = d1.done) :
    ∃ d3, (do let (_, st) ← st.advance k; let d ← st.d.pop; pure { st with d := d }) = .ok ⟨rest, d3⟩ ∧ After d1 d3 := by
  obtain ⟨d3, hpop, haf⟩ := After.pop hstk hd hdn
  rw [runD_eq] at hr
  exact ⟨d3, by simp only [DS.advance, hps, advance_end k hs hr, bind, Except.bind, pure, Except.pure, hpop], haf⟩

theorem DExit.of_after {rest : List Sym} {d1 d3 : Dec} {flat rec1 : Prop} (hrec : rec1 → False) (h : After d1 d3) :
    DExit ⟨rest, d3⟩ rest d1 flat rec1 :=
  ⟨[], rfl, nofun, fun _ => nofun, fun h => (hrec h).elim, d3, rfl, h⟩

theorem DExit.after {st' : DS} {rest : List Sym} {d1 d2 : Dec} {p q : Prop} (hx : DExit st' rest d2 p q) (h : After d1 d2) :
    DExit st' rest d1 p q := by
  obtain ⟨acts', h1, h2, h3, h4, d3, hr, haf⟩ := hx
  exact ⟨acts', h1, h2, h3, h4, d3, hr, h.trans haf⟩

theorem DExit.mono {st' : DS} {rest : List Sym} {d1 : Dec} {p q p' q' : Prop} (h : DExit st' rest d1 p p') (hqp : q → p)
    (hqp' : q' → p') : DExit st' rest d1 q q' := by
  obtain ⟨acts', h1, h2, h3, h3', h4⟩ := h
  exact ⟨acts', h1, h2, fun hq => h3 (hqp hq), fun hq => h3' (hqp' hq), h4⟩

theorem DExit.skip {st' : DS} {rest ue : List Sym} {d1 : Dec} {p p' : Prop} (hx : DExit st' (ue ++ rest) d1 p p')
    (hue : ∀ a ∈ ue, noPop a = true) : DExit st' rest d1 p False := by
  obtain ⟨acts', hps, hend, hnp, _, d3, hrun, haf⟩ := hx
  refine ⟨acts' ++ ue, by simp [hps], List.forall_mem_append.2 ⟨hend, fun b hb => noPop_endAct (hue b hb)⟩,
    fun hp => List.forall_mem_append.2 ⟨hnp hp, hue⟩, False.elim, d3, ?_, haf⟩
  rw [runD_append, hrun]; exact runD_noPop ue d3 hue

/-- `RecordEnd` joins the pending actions: it pops the frame pushed at `d1`, after a value read in `dR` -/
theorem DExit.close {st' : DS} {rest : List Sym} {dR d1 : Dec} {p p' : Prop} (hx : DExit st' (.recordEnd :: rest) dR p p')
    (hstk : dR.stack = (d1.current, d1.key) :: d1.stack) (hd : dR.data = d1.data) (hdn : dR.done = d1.done) :
    DExit st' rest d1 False p := by
  obtain ⟨acts', hps, hend, hnp, _, d3, hrun, haf⟩ := hx
  obtain ⟨d4, hpop, haf4⟩ := After.pop (haf.stack.trans hstk) (haf.data.trans hd) (haf.done.trans hdn)
  refine ⟨acts' ++ [.recordEnd], by simp [hps], List.forall_mem_append.2 ⟨hend, List.forall_mem_singleton.2 rfl⟩, nofun,
    fun hp => ⟨acts', rfl, hnp hp⟩, d4, ?_, haf4⟩
  rw [runD_append, hrun]; simp only [R.ok_bind, runD, decAct, hpop]

theorem restOk_skip {ue rest : List Sym} (hue : ∀ a ∈ ue, noPop a = true) (hr : restOk rest) : restOk (ue ++ rest) := by
  cases ue with
  | nil => exact hr
  | cons a ue =>
    have ha := hue a (by simp)
    exact restOk_cons (by cases a <;> first | rfl | cases ha)

mutual
/-- no pop is pending after a value of this type -/
inductive Flat (env : Env) : Schema → Prop
  | prim (p df lt) : Flat env (.prim p df lt)
  | fixed (n sz lt al) : Flat env (.fixed n sz lt al)
  | enum (n syms d al) : Flat env (.enum n syms d al)
  | array (items) : Flat env (.array items)
  | map (values) : Flat env (.map values)
  | union (bs) : (∀ b ∈ bs, Flat env b) → Flat env (.union bs)
  | ref (n s') : env.get? n = some s' → Flat env s' → Flat env (.ref n)
end

/-- a record (possibly by name) whose last field is flat: exactly one pop — its own `RecordEnd` — is pending after it -/
inductive Rec1 (env : Env) : Schema → Prop
  | record (n fields al) : (∀ f, fields.getLast? = some f → Flat env f.type) → Rec1 env (.record n fields al)
  | ref (n s') : env.get? n = some s' → Rec1 env s' → Rec1 env (.ref n)

/-- excluded as map values: a record that ends in a record (two pops pending, `iter_map` deletes from the wrong object:
    finding F28), and a union with a record branch — there the functional model follows Python only up to aliasing of the
    map object (it re-reads entries Python has already deleted) -/
inductive DOk (env : Env) : Schema → Prop
  | prim (p df lt) : DOk env (.prim p df lt)
  | fixed (n sz lt al) : DOk env (.fixed n sz lt al)
  | enum (n syms d al) : DOk env (.enum n syms d al)
  | array (items) : DOk env items → DOk env (.array items)
  | map (values) : DOk env values → (Flat env values ∨ Rec1 env values) → DOk env (.map values)
  | union (bs) : (∀ b ∈ bs, DOk env b) → DOk env (.union bs)
  | record (n fields al) : (fields.map Field.name).Nodup → (∀ f ∈ fields, DOk env f.type) → DOk env (.record n fields al)
  | ref (n s') : env.get? n = some s' → DOk env s' → DOk env (.ref n)

def DSound (env : Env) (fuel : Nat) : Prop :=
  ∀ (s : Schema) (j w : Val), Json.decode fuel env s j = .ok w → Fits env fuel s j → KeysOk j → Small j →
  ∀ (d : Option Val) (G : Sym), Gram env s d G → nonEmptyRec s = true → DOk env s →
  ∀ (st : DS) (acts rest : List Sym) (d1 : Dec), DEntry st acts G rest d1 → restOk rest → At env s d1 d j →
    ∃ st', mDecode fuel env s st = .ok (w, st') ∧ DExit st' rest d1 (Flat env s) (Rec1 env s)

/-- `DSound` at one schema: `DSound env fuel` unfolds to `∀ s, DSoundAt env fuel s` -/
def DSoundAt (env : Env) (fuel : Nat) (s : Schema) : Prop :=
  ∀ (j w : Val), Json.decode fuel env s j = .ok w → Fits env fuel s j → KeysOk j → Small j →
  ∀ (d : Option Val) (G : Sym), Gram env s d G → nonEmptyRec s = true → DOk env s →
  ∀ (st : DS) (acts rest : List Sym) (d1 : Dec), DEntry st acts G rest d1 → restOk rest → At env s d1 d j →
    ∃ st', mDecode fuel env s st = .ok (w, st') ∧ DExit st' rest d1 (Flat env s) (Rec1 env s)

/-- `hw`, here and below: `s` is not a union, so a default is not wrapped -/
theorem readValue_at {env : Env} {s : Schema} {d1 : Dec} {j : Val} {dflt : Option Val} (hat : At env s d1 dflt j)
    (hw : ∀ dv, absentWrap env s dv = dv) (hnd : ∀ kv, j ≠ .dict kv) : d1.readValue dflt = .ok j := by
  unfold Dec.readValue
  cases hat with
  | keyed kv s hc hk hg => rw [hc]; simp only [hk, dictGetKey, hg]
  | direct hc hk =>
    rw [hc]
    cases j <;> first | rfl | (exact absurd rfl (hnd _))
  | absent kv s dv hc hk hg hd hj _ => rw [hc]; simp only [hk, dictGetKey, hg, hd, getDefault, hj, hw]

theorem pushAdjust_at {env : Env} {s : Schema} {d1 : Dec} {j : Val} {dflt : Option Val} (hat : At env s d1 dflt j)
    (hw : ∀ dv, absentWrap env s dv = dv) :
    d1.pushAdjust dflt = .ok { d1 with stack := (d1.current, d1.key) :: d1.stack, current := j } := by
  unfold Dec.pushAdjust Dec.push
  cases hat with
  | keyed kv s hc hk hg => simp only [hc, hk, hg]
  | direct hc hk =>
    subst hc
    rw [hk]
    split
    · rename_i h1 h2; cases h2
    · rfl
  | absent kv s dv hc hk hg hd hj _ => simp only [hc, hk, hg, hd, getDefault, bind, Except.bind, pure, Except.pure, hj, hw]

section
variable {env : Env} {s : Schema} {st : DS} {acts rest : List Sym} {d1 : Dec} {dflt : Option Val} {j : Val}

theorem dleaf {k : TK} (hE : DEntry st acts (.term k dflt) rest d1) (hat : At env s d1 dflt j)
    (hw : ∀ dv, absentWrap env s dv = dv) (hnd : ∀ kv, j ≠ .dict kv) (h1 : (k == TK.arrayEnd) = false := by rfl)
    (h2 : (k == TK.mapEnd) = false := by rfl) : st.readLeaf k = .ok (j, ⟨rest, d1⟩) := by
  simp only [DS.readLeaf, hE.adv h1 h2, bind, Except.bind, symDefault, readValue_at hat hw hnd]; rfl

theorem dutf8 (hE : DEntry st acts (.term .string dflt) rest d1) (hr : restOk rest)
    (hat : At env s d1 dflt j) (hw : ∀ dv, absentWrap env s dv = dv) (hnd : ∀ kv, j ≠ .dict kv) :
    st.readUtf8 = .ok (j, ⟨rest, d1⟩) := by
  obtain ⟨top, tl, rfl, htop⟩ := hr
  simp only [DS.readUtf8, hE.adv, bind, Except.bind, htop, symDefault, readValue_at hat hw hnd]; rfl

theorem dutf8_key {k x : Val} {M : List (Val × Val)}
    (hE : DEntry st acts (.term .string dflt) (.term .mapKeyMarker none :: rest) d1) (hc : d1.current = .dict ((k, x) :: M)) :
    st.readUtf8 = .ok (k, ⟨rest, { d1 with key := k }⟩) := by
  simp only [DS.readUtf8, hE.adv, bind, Except.bind, Sym.isTerm, beq_self_eq_true, if_true,
    (DEntry.top (.term .mapKeyMarker none) rest d1).adv, hc, pure, Except.pure]

theorem dreadEnum {syms : List String} {x : String} {i : Nat}
    (hE : DEntry st acts (.seq [.term .enum dflt, .enumLabels syms]) rest d1) (hi : indexOf? syms x = some i)
    (hat : At env s d1 dflt (.str x)) (hw : ∀ dv, absentWrap env s dv = dv) :
    st.readEnum = .ok (i, ⟨rest, d1⟩) := by
  simp only [DS.readEnum, hE.seq.adv, bind, Except.bind, List.cons_append, List.nil_append, symDefault,
    readValue_at hat hw nofun, pure, Except.pure, hi]

end

/-- the Latin-1 step after a `bytes` or `fixed` leaf: the machine's is the function-level one with the state paired on -/
theorem latin1_post {t : String} {w : Val} (st : DS)
    (h : (match latin1Enc t with | some b => pure (.bytes b) | none => throw .value : R Val) = .ok w) :
    (match latin1Enc t with | some b => pure (Val.bytes b, st) | none => .error .value : R (Val × DS)) = .ok (w, st) := by
  revert h
  cases latin1Enc t with
  | none => intro h; cases h
  | some b => intro h; cases h; rfl

theorem dprim (env : Env) (fuel : Nat) (p : Prim) (df : Bool) (lt : Option LogT) : DSoundAt env (fuel+1) (.prim p df lt) := by
  intro j w hj hfit _ _ d G hG _ _ st acts rest d1 hEG hr hat
  cases lt with
  | some l => cases hj
  | none =>
    -- `Gram.null` and `Gram.prim` give the same symbol: `primTK .null` is `.null`
    have hE : DEntry st acts (.term (primTK p) d) rest d1 := by cases hG <;> exact hEG
    refine ⟨⟨rest, d1⟩, ?_, .of_after nofun (.refl d1)⟩
    simp only [Json.decode] at hj
    cases p <;> simp only [Fits] at hfit <;> simp only [mDecode, primTK] at hE ⊢
    case null => subst hfit; cases hj; exact dleaf hE hat (fun _ => rfl) nofun
    case string => cases hj; exact dutf8 hE hr hat (fun _ => rfl) hfit
    case bytes =>
      simp only [bind, Except.bind, dleaf hE hat (fun _ => rfl) hfit]
      cases j <;> first | cases hj | exact latin1_post _ hj
    all_goals cases hj; exact dleaf hE hat (fun _ => rfl) hfit

theorem dfixed (env : Env) (fuel : Nat) (n : String) (sz : Nat) (lt : Option LogT) (al : List String) :
    DSoundAt env (fuel+1) (.fixed n sz lt al) := by
  intro j w hj _ _ _ d G hG _ _ st acts rest d1 hE _ hat
  cases lt with
  | some l => cases hj
  | none =>
    cases hG
    cases j with
    | str t =>
      refine ⟨⟨rest, d1⟩, ?_, .of_after nofun (.refl d1)⟩
      simp only [mDecode, bind, Except.bind, dleaf hE hat (fun _ => rfl) nofun]
      exact latin1_post _ hj
    | _ => all_goals cases hj

theorem denum (env : Env) (fuel : Nat) (n : String) (syms : List String) (dflt : Option Val) (al : List String) :
    DSoundAt env (fuel+1) (.enum n syms dflt al) := by
  intro j w hj _ _ _ d G hG _ _ st acts rest d1 hE _ hat
  cases hG
  cases j with
  | str x =>
    simp only [Json.decode] at hj
    split at hj <;> cases hj
    rename_i hc
    obtain ⟨i, hi, hget⟩ := contains_indexOf hc
    exact ⟨⟨rest, d1⟩, by simp only [mDecode, bind, Except.bind, dreadEnum hE hi hat (fun _ => rfl), hget, pure, Except.pure],
      .of_after nofun (.refl d1)⟩
  | _ => all_goals cases hj

structure ArrSt (st : DS) (rest : List Sym) (I : Sym) (fr : List (Val × Val)) (xs : List Val)
    (data : List Val) (done : Bool) : Prop where
  ps : st.ps = .rep .arrayEnd [I, .term .itemEnd none] :: rest
  stack : st.d.stack = fr
  cur : st.d.current = .list xs
  key : st.d.key = .none
  data : st.d.data = data
  done : st.d.done = done

theorem ArrSt.arrayEnd {st : DS} {rest : List Sym} {I : Sym} {xs : List Val} {d1 : Dec}
    (hst : ArrSt st rest I ((d1.current, d1.key) :: d1.stack) xs d1.data d1.done) :
    ∃ d3, st.arrayEnd = .ok ⟨rest, d3⟩ ∧ After d1 d3 :=
  dend (pa := []) hst.ps nofun rfl hst.stack hst.data hst.done

theorem darrayStart {env : Env} {items : Schema} {st : DS} {acts rest : List Sym} {I : Sym} {d1 : Dec} {dflt : Option Val}
    {xs : List Val} (hE : DEntry st acts (.term .arrayStart dflt) (.rep .arrayEnd [I, .term .itemEnd none] :: rest) d1)
    (hat : At env (.array items) d1 dflt (.list xs)) :
    ∃ st2, st.arrayStart = .ok st2 ∧ ArrSt st2 rest I ((d1.current, d1.key) :: d1.stack) xs d1.data d1.done :=
  ⟨⟨_, { d1 with stack := (d1.current, d1.key) :: d1.stack, current := .list xs, key := .none }⟩,
    by simp only [DS.arrayStart, hE.adv, bind, Except.bind, symDefault, pushAdjust_at hat fun _ => rfl]; rfl,
    rfl, rfl, rfl, rfl, rfl, rfl⟩

theorem ditems (env : Env) (fuel : Nat) (IH : DSound env fuel)
    (items : Schema) (I : Sym) (hG : Gram env items none I) (hne : nonEmptyRec items = true) (hok : DOk env items)
    (rest : List Sym) (fr : List (Val × Val)) (data : List Val) (done : Bool) :
    ∀ (xs ws : List Val), decItemsWith (Json.decode fuel env items) xs = .ok ws →
    (∀ x ∈ xs, Fits env fuel items x ∧ KeysOk x ∧ Small x) →
    ∀ (n : Nat), xs.length < n → ∀ (st : DS) (acc : List Val), ArrSt st rest I fr xs data done →
    ∃ st', mArrayLoop (mDecode fuel env items) n st acc = .ok (acc ++ ws, st') ∧ ArrSt st' rest I fr [] data done := by
  intro xs
  induction xs with
  | nil =>
    intro ws h _ n hn st acc hst
    cases h
    cases n with
    | zero => cases hn
    | succ n => exact ⟨st, by simp only [mArrayLoop, hst.cur, pure, Except.pure, List.append_nil], hst⟩
  | cons x xs ih =>
    intro ws h hall n hn st acc hst
    cases n with
    | zero => cases hn
    | succ n =>
    simp only [decItemsWith, R.bind_ok_iff, R.pure_ok_iff] at h
    obtain ⟨a, hx, b, hxs, rfl⟩ := h
    obtain ⟨hfx, hkx, hsx⟩ := hall x (by simp)
    let tail : List Sym := .rep .arrayEnd [I, .term .itemEnd none] :: rest
    -- the item, in the frame `iter_array` pushed
    let d : Dec := { st.d with stack := (.list xs, st.d.key) :: st.d.stack, current := x }
    have hE : DEntry ⟨st.ps, d⟩ [] I (.term .itemEnd none :: tail) d :=
      ⟨hst.ps ▸ behaves_arrayRep I rest, by simp, rfl⟩
    obtain ⟨st1, hm, acts', hps1, hend1, _, _, d3, hr1, haf⟩ :=
      IH items x a hx hfx hkx hsx none I hG hne hok ⟨st.ps, d⟩ [] _ d hE restOk_cons (.direct rfl hst.key)
    -- the iterator's pop comes before the pending actions; then `ItemEnd`
    let d4 : Dec := { d3 with stack := fr, current := .list xs, key := .none }
    have hpop3 : d3.pop = .ok d4 := by simp only [Dec.pop, haf.stack, d, hst.key, hst.stack, d4]
    obtain ⟨dp, hpop, hrp⟩ := runD_pop_comm acts' hend1 st1.d d3 _ hr1 hpop3
    have hadv := (DEntry.of_ps (st := ⟨st1.ps, dp⟩) hps1 (fun a ha => endAct_simple (hend1 a ha)) hrp).adv
    obtain ⟨st3, hm3, hst3⟩ := ih b hxs (fun y hy => hall y (by simp [hy])) n (by simpa using hn) ⟨tail, d4⟩ (acc ++ [a])
      ⟨rfl, rfl, rfl, rfl, haf.data.trans hst.data, haf.done.trans hst.done⟩
    refine ⟨st3, ?_, hst3⟩
    simp only [mArrayLoop, hst.cur, bind, Except.bind]
    -- `hm` speaks of the local definition `d`, which `rw` unfolds to find its instance and `simp only` does not
    rw [hm]
    simp only [hpop, hadv]
    rw [hm3]
    simp [List.append_assoc]

theorem darray (env : Env) (fuel : Nat) (IH : DSound env fuel) (items : Schema) : DSoundAt env (fuel+1) (.array items) := by
  intro j w hj hfit hko hsm dflt G hG hne hok st acts rest d1 hE _ hat
  cases hG with
  | array _ _ I hI =>
  cases hok with
  | array _ hoki =>
  cases j with
  | list xs =>
    simp only [Json.decode, R.bind_ok_iff, R.pure_ok_iff] at hj
    obtain ⟨ws, hws, rfl⟩ := hj
    obtain ⟨st2, hstart, hst2⟩ := darrayStart hE.seq hat
    obtain ⟨st3, hloop, hst3⟩ := ditems env fuel IH items I hI (by simpa [nonEmptyRec] using hne) hoki rest _ _ _ xs ws hws
      (fun x hx => ⟨hfit xs rfl x hx, hko.of_list x hx, hsm.of_list.2 x hx⟩) DFUEL hsm.of_list.1 st2 [] hst2
    obtain ⟨d3, hend, haf⟩ := hst3.arrayEnd
    exact ⟨⟨rest, d3⟩, by simp only [mDecode, bind, Except.bind, hstart, hloop, hend, pure, Except.pure, List.nil_append],
      .of_after nofun haf⟩
  | _ => all_goals cases hj

theorem runD_np_pop (np : List Sym) (d : Dec) (hnp : ∀ a ∈ np, noPop a = true) : runD (np ++ [.recordEnd]) d = d.pop := by
  rw [runD_append, runD_noPop np d hnp]
  show runD [.recordEnd] d = d.pop
  simp only [runD, decAct]
  cases d.pop <;> rfl

theorem sameElse_head {k : String} {x0 : Val} {M' M'' : List (Val × Val)} (h : SameElse k ((.str k, x0) :: M') M'') :
    ∃ y, M'' = (.str k, y) :: M' := by
  rcases h with rfl | ⟨x, rfl⟩
  · exact ⟨x0, rfl⟩
  · exact ⟨x, by simp [valDictSet]⟩

structure MapSt1 (st : DS) (rest : List Sym) (V : Sym) (fr : List (Val × Val)) (M : List (Val × Val))
    (data : List Val) (done : Bool) : Prop where
  ps : (st.ps = .rep .mapEnd [.term .string none, .term .mapKeyMarker none, V] :: rest ∧ st.d.stack = fr) ∨
       (∃ np F, st.ps = (np ++ [.recordEnd]) ++ .rep .mapEnd [.term .string none, .term .mapKeyMarker none, V] :: rest ∧
          (∀ a ∈ np, noPop a = true) ∧ st.d.stack = F :: fr)
  cur : st.d.current = .dict M
  data : st.d.data = data
  done : st.d.done = done

/-- inside `iter_map`, with `M` still to read: `MapSt1` (`r = true`, record values), and for flat values (`r = false`) the
    state in which actions may be pending, none that pops, and no frame of `iter_map` is left on the stack -/
structure MapStG (r : Bool) (st : DS) (rest : List Sym) (V : Sym) (fr : List (Val × Val)) (M : List (Val × Val))
    (data : List Val) (done : Bool) : Prop where
  ps : (∃ np, st.ps = np ++ .rep .mapEnd [.term .string none, .term .mapKeyMarker none, V] :: rest ∧
          (∀ a ∈ np, noPop a = true) ∧ (r = true → np = []) ∧ st.d.stack = fr) ∨
       (∃ np F, r = true ∧ st.ps = (np ++ [.recordEnd]) ++ .rep .mapEnd [.term .string none, .term .mapKeyMarker none, V] :: rest ∧
          (∀ a ∈ np, noPop a = true) ∧ st.d.stack = F :: fr)
  cur : st.d.current = .dict M
  data : st.d.data = data
  done : st.d.done = done

section
variable {r : Bool} {st : DS} {rest : List Sym} {V : Sym} {fr M : List (Val × Val)} {data : List Val} {done : Bool}

theorem mapSt1_iff : MapSt1 st rest V fr M data done ↔ MapStG true st rest V fr M data done := by
  constructor
  · rintro ⟨⟨hps, hstk⟩ | ⟨np, F, hps, hnp, hstk⟩, hc, hd, hdn⟩
    · exact ⟨.inl ⟨[], hps, nofun, fun _ => rfl, hstk⟩, hc, hd, hdn⟩
    · exact ⟨.inr ⟨np, F, rfl, hps, hnp, hstk⟩, hc, hd, hdn⟩
  · rintro ⟨⟨np, hps, _, hnil, hstk⟩ | ⟨np, F, _, hps, hnp, hstk⟩, hc, hd, hdn⟩
    · cases hnil rfl; exact ⟨.inl ⟨hps, hstk⟩, hc, hd, hdn⟩
    · exact ⟨.inr ⟨np, F, hps, hnp, hstk⟩, hc, hd, hdn⟩

/-- after `iter_map`'s push the pending actions lead to the map object under one frame `X` above `fr`: the frame pushed, or,
    that one popped by the pending `RecordEnd`, the frame left from the entry before -/
theorem MapStG.next (hst : MapStG r st rest V fr M data done) :
    ∃ pa X, DEntry ⟨st.ps, st.d.push⟩ pa (.term .string none) (.term .mapKeyMarker none :: V ::
        .rep .mapEnd [.term .string none, .term .mapKeyMarker none, V] :: rest) { st.d with stack := X :: fr } ∧
      (r = false → X.1 = .dict M) := by
  rcases hst.ps with ⟨np, hps, hnp, _, hstk⟩ | ⟨np, F, rfl, hps, hnp, hstk⟩
  · have hs := noPop_simple hnp
    refine ⟨np, (st.d.current, st.d.key), ⟨?_, hs, ?_⟩, fun _ => hst.cur⟩
    · exact hps ▸ (behaves_mapRep V rest).under hs
    · rw [runD_noPop np _ hnp, Dec.push, hstk]
  · have hs := simple_snoc (noPop_simple hnp) (a := .recordEnd) rfl
    refine ⟨np ++ [.recordEnd], F, ⟨?_, hs, ?_⟩, nofun⟩
    · exact hps ▸ (behaves_mapRep V rest).under hs
    · rw [runD_np_pop np _ hnp, ← hstk]; rfl

/-- the pending actions pop the frame of `iter_map` that is left, if any; `read_map_end` pops the one `read_map_start` pushed at `d1` -/
theorem MapStG.mapEnd {d1 : Dec} (hst : MapStG r st rest V ((d1.current, d1.key) :: d1.stack) M d1.data d1.done) :
    ∃ d3, st.mapEnd = .ok ⟨rest, d3⟩ ∧ After d1 d3 := by
  rcases hst.ps with ⟨np, hps, hnp, _, hstk⟩ | ⟨np, F, _, hps, hnp, hstk⟩
  · exact dend hps (noPop_simple hnp) (runD_noPop np _ hnp) hstk hst.data hst.done
  · exact dend (dB := { st.d with stack := _, current := F.1, key := F.2 }) hps (simple_snoc (noPop_simple hnp) rfl)
      (by rw [runD_np_pop np _ hnp, Dec.pop, hstk]) rfl hst.data hst.done

end

theorem dmapStart {env : Env} {values : Schema} {st : DS} {acts rest : List Sym} {V : Sym} {d1 : Dec} {dflt : Option Val}
    {M : List (Val × Val)} (r : Bool)
    (hE : DEntry st acts (.term .mapStart dflt) (.rep .mapEnd [.term .string none, .term .mapKeyMarker none, V] :: rest) d1)
    (hat : At env (.map values) d1 dflt (.dict M)) :
    ∃ st2, st.mapStart = .ok st2 ∧ MapStG r st2 rest V ((d1.current, d1.key) :: d1.stack) M d1.data d1.done :=
  ⟨⟨_, { d1 with stack := (d1.current, d1.key) :: d1.stack, current := .dict M }⟩,
    by simp only [DS.mapStart, hE.adv, bind, Except.bind, symDefault, pushAdjust_at hat fun _ => rfl]; rfl,
    .inl ⟨[], rfl, nofun, fun _ => rfl, rfl⟩, rfl, rfl, rfl⟩

theorem dentriesG (env : Env) (fuel : Nat) (IH : DSound env fuel)
    (values : Schema) (V : Sym) (hG : Gram env values none V) (hne : nonEmptyRec values = true) (hok : DOk env values)
    (r : Bool) (hmode : if r then Rec1 env values else Flat env values)
    (rest : List Sym) (fr : List (Val × Val)) (data : List Val) (done : Bool) :
    ∀ (M acc ws : List (Val × Val)), decEntriesWith (Json.decode fuel env values) M acc = .ok ws →
    (∀ p ∈ M, ∃ s, p.1 = Val.str s) → (dictKeys M).Nodup →
    (∀ p ∈ M, Fits env fuel values p.2 ∧ KeysOk p.2 ∧ Small p.2) →
    ∀ (n : Nat), M.length < n → ∀ (st : DS), MapStG r st rest V fr M data done →
    ∃ st', mMapLoop (mDecode fuel env values) n st acc = .ok (ws, st') ∧ MapStG r st' rest V fr [] data done := by
  intro M
  induction M with
  | nil =>
    intro acc ws h _ _ _ n hn st hst
    cases h
    cases n with
    | zero => cases hn
    | succ n => exact ⟨st, by simp only [mMapLoop, hst.cur, pure, Except.pure], hst⟩
  | cons e M ih =>
    intro acc ws h hstr hnd hall n hn st hst
    cases n with
    | zero => cases hn
    | succ n =>
    obtain ⟨k0, x0⟩ := e
    obtain ⟨k, rfl⟩ : ∃ k, k0 = Val.str k := hstr (k0, x0) (by simp)
    simp only [decEntriesWith, R.bind_ok_iff] at h
    obtain ⟨a, hx, h⟩ := h
    obtain ⟨hfx, hkx, hsx⟩ := hall (.str k, x0) (by simp)
    obtain ⟨hk, hnd⟩ : k ∉ dictKeys M ∧ (dictKeys M).Nodup := List.nodup_cons.mp hnd
    let tail : List Sym := .rep .mapEnd [.term .string none, .term .mapKeyMarker none, V] :: rest
    obtain ⟨pa, X, hEA, hX⟩ := hst.next
    have hutf := dutf8_key (rest := V :: tail) hEA hst.cur
    obtain ⟨st1, hm, acts', hps1, hend1, hnp1, hrec1, d3, hr1, haf⟩ :=
      IH values x0 a hx hfx hkx hsx none V hG hne hok _ [] _ _ (DEntry.top V tail { st.d with stack := X :: fr, key := .str k })
        restOk_cons (.keyed _ k hst.cur rfl (by simp [dictGetV]))
    obtain ⟨M'', hcur3, hse⟩ := haf.cur _ k hst.cur rfl
    obtain ⟨y, rfl⟩ := sameElse_head hse
    -- `iter_map` pops: the frame it pushed (flat value), or the frame the value's `RecordStart` pushed
    obtain ⟨dP, hpop, ⟨y', hcurP⟩, hst2⟩ : ∃ dP, st1.d.pop = .ok dP ∧ (∃ y', dP.current = .dict ((.str k, y') :: M)) ∧
        MapStG r ⟨st1.ps, { dP with current := .dict M }⟩ rest V fr M data done := by
      cases r with
      | false =>
        have hnp := hnp1 hmode
        have hd3 : d3 = st1.d := by rw [runD_noPop acts' st1.d hnp] at hr1; cases hr1; rfl
        subst hd3
        refine ⟨{ st1.d with stack := fr, current := X.1, key := X.2 }, ?_, ⟨x0, hX rfl⟩, ?_⟩
        · unfold Dec.pop; rw [haf.stack]
        · exact ⟨.inl ⟨acts', hps1, hnp, nofun, rfl⟩, rfl, haf.data.trans hst.data, haf.done.trans hst.done⟩
      | true =>
        obtain ⟨np', rfl, hnp'⟩ := hrec1 hmode
        refine ⟨d3, ?_, ⟨y, hcur3⟩, ?_⟩
        · rw [← runD_np_pop np' st1.d hnp']; exact hr1
        · exact ⟨.inr ⟨np', X, rfl, hps1, hnp', haf.stack⟩, rfl, haf.data.trans hst.data, haf.done.trans hst.done⟩
    obtain ⟨st3, hm3, hst3⟩ := ih (valDictSet acc k a) ws h (fun p hp => hstr p (by simp [hp])) hnd
      (fun p hp => hall p (by simp [hp])) n (by simpa using hn) _ hst2
    refine ⟨st3, ?_, hst3⟩
    simp only [mMapLoop, hst.cur, bind, Except.bind]
    rw [hutf]
    simp only
    rw [hm]
    simp only [hpop, hcurP, dictGetV, beq_self_eq_true, if_true, Option.isSome_some, pure, Except.pure, filter_first k y' M hk]
    exact hm3

theorem dentries1 (env : Env) (fuel : Nat) (IH : DSound env fuel)
    (values : Schema) (V : Sym) (hG : Gram env values none V) (hne : nonEmptyRec values = true) (hok : DOk env values)
    (hrec : Rec1 env values) (rest : List Sym) (fr : List (Val × Val)) (data : List Val) (done : Bool) :
    ∀ (M acc ws : List (Val × Val)), decEntriesWith (Json.decode fuel env values) M acc = .ok ws →
    (∀ p ∈ M, ∃ s, p.1 = Val.str s) → (dictKeys M).Nodup →
    (∀ p ∈ M, Fits env fuel values p.2 ∧ KeysOk p.2 ∧ Small p.2) →
    ∀ (n : Nat), M.length < n → ∀ (st : DS), MapSt1 st rest V fr M data done →
    ∃ st', mMapLoop (mDecode fuel env values) n st acc = .ok (ws, st') ∧ MapSt1 st' rest V fr [] data done := by
  intro M acc ws h hstr hnd hall n hn st hst
  obtain ⟨st', hm, hst'⟩ := dentriesG env fuel IH values V hG hne hok true hrec rest fr data done M acc ws h hstr hnd hall n hn st
    (mapSt1_iff.1 hst)
  exact ⟨st', hm, mapSt1_iff.2 hst'⟩

theorem dmap (env : Env) (fuel : Nat) (IH : DSound env fuel) (values : Schema) : DSoundAt env (fuel+1) (.map values) := by
  intro j w hj hfit hko hsm d G hG hne hok st acts rest d1 hE hr hat
  cases hG with
  | map _ _ V hV =>
  cases hok with
  | map _ hokv hmode =>
  cases j with
  | dict M =>
    simp only [Json.decode, R.bind_ok_iff, R.pure_ok_iff] at hj
    obtain ⟨ws, hws, rfl⟩ := hj
    obtain ⟨hstr, hnd, hkv⟩ := hko.of_dict
    obtain ⟨r, hr'⟩ : ∃ r : Bool, if r then Rec1 env values else Flat env values := by
      rcases hmode with h | h
      · exact ⟨false, h⟩
      · exact ⟨true, h⟩
    obtain ⟨st2, hstart, hst2⟩ := dmapStart r hE.seq hat
    obtain ⟨st3, hloop, hst3⟩ :=
      dentriesG env fuel IH values V hV (by simpa [nonEmptyRec] using hne) hokv r hr' rest _ _ _ M [] ws hws
        (fun p hp => (hstr p hp).imp fun _ h => h.1) hnd (fun p hp => ⟨hfit M rfl p hp, hkv p hp, hsm.of_dict.2 p hp⟩)
        DFUEL hsm.of_dict.1 st2 hst2
    obtain ⟨d3, hend, haf⟩ := hst3.mapEnd
    exact ⟨⟨rest, d3⟩, by simp only [mDecode, bind, Except.bind, hstart, hloop, hend, pure, Except.pure], .of_after nofun haf⟩
  | _ => all_goals cases hj

theorem null_label {env : Env} (henv : EnvOk env) {b : Schema} (h : isNullBranch env b = true) : label b = "null" := by
  obtain ⟨d, lt, rfl⟩ := null_shape henv.named h
  rfl

theorem dec_with_current_self (d : Dec) (c : Val) (h : d.current = c) : { d with current := c } = d := by
  cases d; simp only at h; subst h; rfl

section readIndex
variable {env : Env} {s s' : Schema} {st : DS} {acts rest : List Sym} {d1 : Dec} {syms : List Sym} {labels : List String}
  {dflt : Option Val} {i : Nat} {sym : Sym}

theorem dreadIndex_null (hE : DEntry st acts (.seq [.term .union none, .alt syms labels dflt]) rest d1)
    (hat : At env s d1 none .none) (hi : indexOf? labels "null" = some i) (hsym : syms[i]? = some sym) :
    st.readIndex = .ok (i, ⟨sym :: rest, d1⟩) := by
  unfold DS.readIndex
  rw [hE.seq.adv]
  simp only [bind, Except.bind, List.cons_append, List.nil_append]
  cases hat with
  | keyed kv s hc hk hg =>
    simp only [hc, hk, dictGetKey, hg, pure, Except.pure, hi, hsym, Bool.false_eq_true, if_false]
    -- the state returned is `{ d1 with current := .dict kv }`, with `d1.key` rewritten by `hk`
    rw [← hk, dec_with_current_self d1 _ hc]
  | direct hc hk => simp only [hc, hk, pure, Except.pure, hi, hsym, Bool.false_eq_true, if_false]
  | absent _ _ _ _ _ _ hd => cases hd

theorem dreadIndex_dict {l : String} {x : Val} (hE : DEntry st acts (.seq [.term .union none, .alt syms labels dflt]) rest d1)
    (hat : At env s d1 none (.dict [(.str l, x)])) (hi : indexOf? labels l = some i) (hsym : syms[i]? = some sym) :
    ∃ d2, st.readIndex = .ok (i, ⟨sym :: .unionEnd :: rest, d2⟩) ∧ At env s' d2 none x ∧ After d1 d2 := by
  unfold DS.readIndex
  rw [hE.seq.adv]
  simp only [bind, Except.bind, List.cons_append, List.nil_append]
  cases hat with
  | keyed kv s hc hk hg =>
    refine ⟨{ d1 with current := .dict (valDictSet kv s x) }, ?_, .keyed (valDictSet kv s x) s rfl hk (get_set_same kv s x),
      After.rebind d1 kv s x hc hk⟩
    simp only [hc, hk, dictGetKey, hg, pure, Except.pure, List.getLast?_singleton, dictSetKey, hi, hsym, if_true]
  | direct hc hk =>
    refine ⟨{ d1 with current := x }, ?_, .direct rfl hk, ⟨rfl, rfl, rfl, rfl, fun _ _ _ hk' => by rw [hk] at hk'; cases hk'⟩⟩
    simp only [hc, hk, pure, Except.pure, List.getLast?_singleton, hi, hsym, if_true]
  | absent _ _ _ _ _ _ hd => cases hd

/-- the key is absent: `read_index` inserts `{labels[0]: default}` and goes on as if it had been there -/
theorem dreadIndex_absent {l0 : String} {lrest : List String} {dv : Val} {kv : List (Val × Val)} {k : String}
    (hE : DEntry st acts (.seq [.term .union none, .alt syms (l0 :: lrest) (some dv)]) rest d1)
    (hc : d1.current = .dict kv) (hk : d1.key = .str k) (hg : dictGetV kv k = none) (hsym : syms[0]? = some sym) :
    ∃ d2, st.readIndex = .ok (0, ⟨sym :: .unionEnd :: rest, d2⟩) ∧ At env s' d2 none dv ∧ After d1 d2 := by
  refine ⟨{ d1 with current := .dict (valDictSet kv k dv) }, ?_, .keyed (valDictSet kv k dv) k rfl hk (get_set_same kv k dv),
    After.rebind d1 kv k dv hc hk⟩
  unfold DS.readIndex
  rw [hE.seq.adv]
  simp only [bind, Except.bind, List.cons_append, List.nil_append]
  simp only [hc, hk, dictGetKey, hg, getDefault, pure, Except.pure, dictSetKey, get_set_same, List.getLast?_singleton,
    indexOf_head, hsym, valDictSet_idem, if_true]

end readIndex

theorem union_branch {env : Env} (henv : EnvOk env) {fuel : Nat} {bs : List Schema} {j w : Val}
    (hdec : Json.decode (fuel+1) env (.union bs) j = .ok w) (hfit : Fits env (fuel+1) (.union bs) j)
    (hk : KeysOk j) (hs : Small j) :
    ∃ i b x, bs[i]? = some b ∧ Json.decode fuel env b x = .ok w ∧ Fits env fuel b x ∧ KeysOk x ∧ Small x ∧
      ((j = .none ∧ x = .none ∧ indexOf? (bs.map label) "null" = some i) ∨
       (∃ l, j = .dict [(.str l, x)] ∧ indexOf? (bs.map label) l = some i)) := by
  obtain ⟨hf1, hf2, hf3⟩ := hfit
  simp only [Json.decode] at hdec
  split at hdec
  · cases hfind : bs.find? (isNullBranch env) with
    | none => rw [hfind] at hdec; cases hdec
    | some b =>
      rw [hfind] at hdec
      have hlab : (bs.map label).contains "null" = true := by
        simp only [List.contains_iff_mem, List.mem_map]
        exact ⟨b, List.mem_of_find?_eq_some hfind, null_label henv (by simpa using List.find?_some hfind)⟩
      obtain ⟨i, hi, _⟩ := contains_indexOf hlab
      exact ⟨i, b, .none, by rw [hf1 rfl i hi, hfind], hdec, hf2 b rfl hfind, hk, hs, .inl ⟨rfl, rfl, hi⟩⟩
  · rename_i l x
    cases hfind : findLabel env bs l with
    | none => rw [hfind] at hdec; cases hdec
    | some b =>
      rw [hfind] at hdec
      obtain ⟨i, hi, hbi⟩ := find_label_index hfind
      exact ⟨i, b, x, hbi, hdec, hf3 l x b rfl hfind, hk.of_dict.2.2 _ List.mem_cons_self, hs.of_dict.2 _ List.mem_cons_self,
        .inr ⟨l, rfl, hi⟩⟩
  · cases hdec

theorem dunion (env : Env) (henv : EnvOk env) (fuel : Nat) (IH : DSound env fuel) (bs : List Schema) :
    DSoundAt env (fuel+1) (.union bs) := by
  intro j w hj hfit hko hsm d G hG hne hok st acts rest d1 hE hr hat
  cases hG with
  | union _ _ syms hgl =>
  cases hok with
  | union _ hokb =>
  obtain ⟨i, b, x, hbi, hdx, hfx, hkx, hsx, hjx⟩ := union_branch henv hj hfit hko hsm
  obtain ⟨sym, hsym, hGb⟩ := gramList_get hgl hbi
  have hbmem : b ∈ bs := List.mem_of_getElem? hbi
  -- `read_index` leaves the branch's symbol on top, over `UnionEnd` unless the value is a bare null
  have hri : ∃ ue d2, st.readIndex = .ok (i, ⟨sym :: (ue ++ rest), d2⟩) ∧ (∀ a ∈ ue, noPop a = true) ∧
      At env b d2 none x ∧ After d1 d2 := by
    rcases hat.split with hp | ⟨kv, k, dv, hc, hk, hg, rfl, hj', hn⟩
    · rcases hjx with ⟨rfl, rfl, hi⟩ | ⟨l, rfl, hi⟩
      · exact ⟨[], d1, dreadIndex_null hE (hp b) hi hsym, by simp, hp b, After.refl d1⟩
      · obtain ⟨d2, h1, h2, h3⟩ := dreadIndex_dict hE (hp b) hi hsym
        exact ⟨[.unionEnd], d2, h1, by simp [noPop], h2, h3⟩
    · -- the key is absent: the machine takes the first branch, and so does the function-level reader
      cases bs with
      | nil => simp at hbi
      | cons b0 bs' =>
        have hi0 : i = 0 ∧ x = dv := by
          simp only [absentWrap, unwrapRef] at hj'
          by_cases hnull : isNullBranch env b0 = true
          · -- a null first branch: the default is then null (last clause of `At.absent`).  With another default the
            -- readers would part: the machine reads `dv` itself at the null terminal, `Json.decode` takes the null
            -- branch for `None` only, where `decPrim .null` returns `None` whatever it is given
            have hdv : dv = .none := hn b0 bs' (by simp [unwrapRef]) hnull
            subst hdv
            simp only [hnull, if_true] at hj'
            rcases hjx with ⟨_, rfl, hi⟩ | ⟨l, hjl, _⟩
            · rw [List.map_cons, null_label henv hnull, indexOf_head] at hi
              exact ⟨(Option.some.inj hi).symm, rfl⟩
            · rw [hj'] at hjl; cases hjl
          · simp only [hnull, Bool.false_eq_true, if_false] at hj'
            rcases hjx with ⟨hjn, _, _⟩ | ⟨l, hjl, hi⟩
            · rw [hj'] at hjn; cases hjn
            · rw [hj'] at hjl; cases hjl
              rw [List.map_cons, indexOf_head] at hi
              exact ⟨(Option.some.inj hi).symm, rfl⟩
        obtain ⟨rfl, rfl⟩ := hi0
        obtain ⟨d2, h1, h2, h3⟩ := dreadIndex_absent (l0 := label b0) (lrest := bs'.map label) (by simpa using hE) hc hk hg hsym
        exact ⟨[.unionEnd], d2, h1, by simp [noPop], h2, h3⟩
  obtain ⟨ue, d2, hri, hue, hat2, haf⟩ := hri
  obtain ⟨st', hm, hx⟩ := IH b x w hdx hfx hkx hsx none sym hGb (nonEmptyRecL_get (by simpa [nonEmptyRec] using hne) hbi)
    (hokb b hbmem) _ [] _ d2 (DEntry.top sym (ue ++ rest) d2) (restOk_skip hue hr) hat2
  exact ⟨st', by simp only [mDecode, bind, Except.bind, hri, hbi, hm],
    ((hx.skip hue).mono (fun hq => by cases hq with | union _ hb => exact hb b hbmem) nofun).after haf⟩

/-- `d1`: the state in which the record's `RecordStart` was executed; behind it only the behaviour of the stack is known,
    hence `Behaves`.  `kvj` is the object as `Json.decode` sees it, `kvR` the machine's copy, in which `read_index` has
    overwritten members already read; they agree on the fields still to come -/
theorem dfields (env : Env) (fuel : Nat) (IH : DSound env fuel) (kvj : List (Val × Val)) (rest : List Sym) (d1 : Dec) :
    ∀ (fields : List Field) (more : List Sym), GramFields env fields more → fields ≠ [] →
    ∀ (acc ws : List (Val × Val)), decFieldsWith env (Json.decode fuel env) fields kvj acc = .ok ws →
    (fields.map Field.name).Nodup →
    (∀ f ∈ fields, ∃ x, FieldVal env kvj f x ∧ Fits env fuel f.type x ∧ KeysOk x ∧ Small x) →
    (∀ f ∈ fields, nonEmptyRec f.type = true ∧ DOk env f.type) →
    ∀ (st : DS) (pa : List Sym), Behaves decAct st.ps (pa ++ (more ++ rest)) → (∀ a ∈ pa, simple a = true) →
    ∀ (dR : Dec), runD pa st.d = .ok dR → dR.stack = (d1.current, d1.key) :: d1.stack → dR.data = d1.data →
    dR.done = d1.done → ∀ kvR, dR.current = .dict kvR → (∀ f ∈ fields, dictGetV kvR f.name = dictGetV kvj f.name) →
    ∃ st', mDecFieldsWith (mDecode fuel env) fields st acc = .ok (ws, st') ∧
      DExit st' rest d1 False (∀ f, fields.getLast? = some f → Flat env f.type) := by
  intro fields
  induction fields with
  | nil => intro _ _ h; exact absurd rfl h
  | cons f fs ih =>
    intro more hg _ acc ws h hnd hall hsch st pa hb hpa dR hrun hstk hdata hdone kvR hcur hagree
    cases hg with
    | cons _ _ t more' ht hmore =>
    obtain ⟨x, hget, hfit, hkx, hsx⟩ := hall f (by simp)
    rw [decFields_step hget] at h
    obtain ⟨a, hx, h⟩ := (R.bind_ok_iff _ _ _).1 h
    -- `FieldStart` sets the key, the value is read from the record's object, `FieldEnd` joins the pending actions
    obtain ⟨st1, hm, hx1⟩ := IH f.type x a hx hfit hkx hsx f.default t ht (hsch f (by simp)).1 (hsch f (by simp)).2 st _ _ _
      ((DEntry.mk hb hpa hrun).act rfl rfl) restOk_cons (fieldVal_at hget hcur (hagree f (by simp)))
    have hx2 := hx1.skip (ue := [.fieldEnd]) (by simp [noPop])
    cases fs with
    | nil =>
      cases hmore
      cases h
      exact ⟨st1, by simp only [mDecFieldsWith, bind, Except.bind, hm]; rfl,
        (hx2.close hstk hdata hdone).mono id fun hl => hl f rfl⟩
    | cons f2 fs =>
      obtain ⟨pa1, hps1, hend1, _, _, d3, hrun1, haf⟩ := hx2
      obtain ⟨kvR', hcur3, hse⟩ := haf.cur kvR f.name hcur rfl
      have hnd' : f.name ∉ (f2 :: fs).map Field.name ∧ ((f2 :: fs).map Field.name).Nodup := List.nodup_cons.1 hnd
      obtain ⟨st', hm', hx'⟩ :=
        ih more' hmore (by simp) (valDictSet acc f.name a) ws h hnd'.2 (fun g hg => hall g (List.mem_cons_of_mem _ hg))
          (fun g hg => hsch g (List.mem_cons_of_mem _ hg)) st1 pa1 (hps1 ▸ Behaves.refl _)
          (fun a ha => endAct_simple (hend1 a ha)) d3 hrun1
          (haf.stack.trans hstk) (haf.data.trans hdata) (haf.done.trans hdone) kvR' hcur3
          (fun g hg => by
            rw [sameElse_get hse g.name fun heq => hnd'.1 (heq ▸ List.mem_map_of_mem hg)]
            exact hagree g (List.mem_cons_of_mem _ hg))
      exact ⟨st', by simp only [mDecFieldsWith, bind, Except.bind, hm]; exact hm',
        hx'.mono id fun hl g hg => hl g (by simpa [List.getLast?_cons_cons] using hg)⟩

/-- `RecordStart`, executed with the first field's `advance`, opens the object the fields are read from (`hE1`) -/
theorem drecord (env : Env) (fuel : Nat) (IH : DSound env fuel) (n : String) (fields : List Field) (al : List String) :
    DSoundAt env (fuel+1) (.record n fields al) := by
  intro j w hj hfit hko hsm d G hG hne hok st acts rest d1 hE _ hat
  cases hG with
  | record _ _ _ _ body hgf =>
  cases hok with
  | record _ _ _ hnd hokf =>
  cases hgf with
  | nil => simp [nonEmptyRec] at hne
  | cons f fs t more ht hmore =>
  cases j with
  | dict kvj =>
    simp only [Json.decode, R.bind_ok_iff, R.pure_ok_iff] at hj
    obtain ⟨ws, hws, rfl⟩ := hj
    have hE1 := hE.seq.act (a := .recordStart d) rfl (pushAdjust_at hat fun _ => rfl)
    -- `KeysOk`, `Small` of a field's value: a member has them from the object, of a default `Fits` says them
    have hall : ∀ g ∈ f :: fs, ∃ x, FieldVal env kvj g x ∧ Fits env fuel g.type x ∧ KeysOk x ∧ Small x := by
      intro g hg
      obtain ⟨x, hget, hfx, hkd⟩ := hfit kvj rfl g hg
      rcases hget with hg1 | ⟨hg1, hrest⟩
      · obtain ⟨k, hk⟩ := dictGetV_mem hg1
        exact ⟨x, .inl hg1, hfx, hko.of_dict.2.2 _ hk, hsm.of_dict.2 _ hk⟩
      · exact ⟨x, .inr ⟨hg1, hrest⟩, hfx, (hkd hg1).1, (hkd hg1).2⟩
    obtain ⟨st', hm', hx⟩ :=
      dfields env fuel IH kvj rest d1 (f :: fs) _ (.cons f fs t more ht hmore) (by simp) [] ws hws hnd hall
        (fun g hg => ⟨nonEmptyRecF_mem _ (by simpa [nonEmptyRec] using hne) g hg, hokf g hg⟩) st _ hE1.eqv hE1.simp _ hE1.run
        rfl rfl rfl kvj rfl (fun _ _ => rfl)
    exact ⟨st', by simp only [mDecode, bind, Except.bind, hm', pure, Except.pure],
      hx.mono nofun fun hq => by cases hq with | record _ _ _ hlast => exact hlast⟩
  | _ => all_goals cases hj

theorem dref (env : Env) (henv : EnvOk env) (fuel : Nat) (IH : DSound env fuel) (n : String) : DSoundAt env (fuel+1) (.ref n) := by
  intro j w hj hfit hko hsm d G hG _ hok st acts rest d1 hE hr hat
  cases hG with
  | ref _ s' _ _ hget hg' =>
  cases hok with
  | ref _ s'' hget' hok' =>
  cases hget.symm.trans hget'
  simp only [Json.decode, hget] at hj
  obtain ⟨st', hm, hx⟩ := IH s' j w hj (hfit s' hget) hko hsm d G hg' (henv n s' hget).2 hok' st acts rest d1 hE hr
    (hat.retype (unwrapRef_ref hget (henv n s' hget).1))
  refine ⟨st', by simp only [mDecode, hget]; exact hm, hx.mono ?_ ?_⟩
  all_goals intro hq; cases hq with | ref _ s3 hget3 hfl => cases hget.symm.trans hget3; exact hfl

theorem dsound_all (env : Env) (henv : EnvOk env) : ∀ fuel, DSound env fuel := by
  intro fuel
  induction fuel with
  | zero => intro s j w hj; cases hj
  | succ fuel IH =>
    intro s
    show DSoundAt env (fuel+1) s
    cases s with
    | prim p df lt => exact dprim env fuel p df lt
    | fixed n sz lt al => exact dfixed env fuel n sz lt al
    | enum n syms dflt al => exact denum env fuel n syms dflt al
    | array items => exact darray env fuel IH items
    | map values => exact dmap env fuel IH values
    | union bs => exact dunion env henv fuel IH bs
    | record n fields al => exact drecord env fuel IH n fields al
    | ref n => exact dref env henv fuel IH n

theorem drainL_acts (acts : List Sym) (G : Sym) (hend : ∀ a ∈ acts, endAct a = true) :
    ∀ (d d3 : Dec), runD acts d = .ok d3 → drainL (acts ++ [.root G]) d = .ok (some [.root G], d3) := by
  induction acts with
  | nil => intro d d3 h; simp only [runD] at h; cases h; simp [drainL, drainS]
  | cons a as ih =>
    intro d d3 h
    have ha := hend a (by simp)
    simp only [runD] at h
    cases hda : decAct a d with
    | error x => rw [hda] at h; cases h
    | ok d1 =>
      rw [hda] at h
      have := ih (fun b hb => hend b (by simp [hb])) d1 d3 h
      cases a <;> simp [endAct] at ha <;>
        simp only [List.cons_append, drainL, drainS, bind, Except.bind, hda, pure, Except.pure, this]

/-- the `let d := match d.data with …` of `mDecodeLoop` -/
def nextDoc (d : Dec) : Dec :=
  match d.data with
  | x :: rest => { d with current := x, key := .none, data := rest }
  | [] => { d with done := true }

/-- the loop's state at the head of an iteration is `nextDoc d`, `d` the state in which the last value and `drain` ended
    (`{ data := docs }` before the first): the invariant is stated of that `d` -/
theorem dall (env : Env) (henv : EnvOk env) (fuel : Nat) (s : Schema) (G : Sym) (hG : Gram env s none G)
    (hne : nonEmptyRec s = true) (hok : DOk env s) :
    ∀ (docs ws : List Val),
    Pairwise2 (fun j w => Json.decode fuel env s j = .ok w ∧ Fits env fuel s j ∧ KeysOk j ∧ Small j) docs ws →
    ∀ (n : Nat), docs.length < n → ∀ (ps : List Sym) (d : Dec) (acc : List Val), Behaves decAct ps [G, .root G] →
    d.stack = [] → d.data = docs → d.done = false →
    mDecodeLoop fuel env s n ⟨ps, nextDoc d⟩ acc = .ok (acc ++ ws) := by
  intro docs ws hall
  induction hall with
  | nil =>
    intro n hn ps d acc _ _ hdata _
    cases n with
    | zero => cases hn
    | succ n => simp only [mDecodeLoop, nextDoc, hdata, if_true, pure, Except.pure, List.append_nil]
  | @cons j w docs ws hjw _ ih =>
    intro n hn ps d acc hb hstk hdata hdone
    cases n with
    | zero => cases hn
    | succ n =>
      obtain ⟨hdec, hfit, hko, hsm⟩ := hjw
      -- `nextDoc d` as the `simp only` below leaves it: `hdone` rewrites `d.done` inside the structure as well
      let d1 : Dec := { d with current := j, key := .none, data := docs, done := false }
      obtain ⟨st1, hm, acts', hps1, hend1, _, _, d3, hr1, haf⟩ :=
        dsound_all env henv fuel s j w hdec hfit hko hsm none G hG hne hok ⟨ps, d1⟩ [] [.root G] d1 ⟨hb, nofun, rfl⟩
          restOk_cons (.direct rfl rfl)
      have hdrain : drain st1.ps st1.d = .ok ([.root G], d3) := by
        rw [hps1]; unfold drain; rw [drainL_acts acts' G hend1 _ _ hr1]
      have := ih n (by simpa using hn) [.root G] d3 (acc ++ [w]) (behaves_root henv hG hne) (haf.stack.trans hstk) haf.data haf.done
      simp only [nextDoc, hdata, mDecodeLoop, hdone, Bool.false_eq_true, if_false, bind, Except.bind]
      rw [hm]
      simp only [hdrain]
      rw [List.append_assoc] at this
      exact this

theorem decodeAll_sound (env : Env) (henv : EnvOk env) (fuel : Nat) (s : Schema) (G : Sym)
    (hG : Gram env s none G) (hne : nonEmptyRec s = true) (hok : DOk env s) (hinit : initialStack fuel env s = .ok [G, .root G])
    (docs ws : List Val)
    (hall : Pairwise2 (fun j w => Json.decode fuel env s j = .ok w ∧ Fits env fuel s j ∧ KeysOk j ∧ Small j) docs ws) :
    decodeAll fuel env s docs = .ok ws := by
  have := dall env henv fuel s G hG hne hok docs ws hall (docs.length + 1) (by simp) [G, .root G] { data := docs } []
    (Behaves.refl _) rfl rfl rfl
  simp only [decodeAll, hinit, bind, Except.bind]
  cases docs <;> simpa [nextDoc] using this

theorem spec_fits (pick : Nat → List Schema → Val → Option (Nat × Val)) (env : Env) (he : EnvNamed env) :
    ∀ (fuel : Nat) (s : Schema) (v j w : Val), Spec.jsonEncodeCore pick fuel env s v = some j →
    Spec.written pick fuel env s v = some w → Fits env fuel s j :=
  fun fuel s v j w hj hw => (spec_read pick env he fuel s v j w hj hw).2

end JMDec
