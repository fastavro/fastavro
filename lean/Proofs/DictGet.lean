/-
  Proofs/DictGet.lean — Python `d.get(k)` and `d.keys()` on an insertion-ordered dict (`dictGetV`, `dictKeys`).  Both look at
  an entry's key only through "is it the string `k`" (`Val.strEq`); the `_cons` equations say so, and what is proved of the
  two functions after them goes through these equations, not through `Val`'s constructors.
-/
import Model.Schema

namespace Dict

theorem strEq_str (a b : String) : (Val.str a).strEq b = (a == b) := rfl

theorem strEq_iff {v : Val} {k : String} : v.strEq k = true ↔ v = .str k := by
  cases v <;> simp [Val.strEq]

theorem dictGetV_cons (e : Val × Val) (rest : List (Val × Val)) (k : String) :
    dictGetV (e :: rest) k = if e.1.strEq k then some e.2 else dictGetV rest k := by
  obtain ⟨k', v'⟩ := e
  cases k' <;> first | rfl | (simp only [dictGetV, Val.strEq]; split <;> rfl)

/-- `_self` and `_ne` match a literal key syntactically: through `dictGetV_cons` the unifier would decide the equality of two
    string literals by `whnf` -/
theorem dictGetV_cons_self (k : String) (v : Val) (rest : List (Val × Val)) :
    dictGetV ((.str k, v) :: rest) k = some v := by
  rw [dictGetV_cons, if_pos (strEq_iff.2 rfl)]

theorem dictGetV_cons_ne {k key : String} (h : (k == key) = false) (v : Val) (rest : List (Val × Val)) :
    dictGetV ((.str k, v) :: rest) key = dictGetV rest key := by
  rw [dictGetV_cons]; exact if_neg (ne_true_of_eq_false h)

theorem mem_dictKeys_cons (e : Val × Val) (rest : List (Val × Val)) (s : String) :
    s ∈ dictKeys (e :: rest) ↔ e.1 = .str s ∨ s ∈ dictKeys rest := by
  obtain ⟨k, v⟩ := e
  cases k with
  | str k' => show s ∈ k' :: dictKeys rest ↔ _; rw [List.mem_cons, Val.str.injEq, eq_comm]
  | _ => exact ⟨.inr, fun h => h.resolve_left Val.noConfusion⟩

theorem mem_dictKeys_of_mem {kv : List (Val × Val)} {k : String} {x : Val} (h : (.str k, x) ∈ kv) : k ∈ dictKeys kv :=
  List.mem_filterMap.2 ⟨_, h, rfl⟩

theorem dictKeys_cons_str (s : String) (x : Val) (rest : List (Val × Val)) :
    dictKeys ((.str s, x) :: rest) = s :: dictKeys rest := rfl

theorem dictKeys_append (a b : List (Val × Val)) : dictKeys (a ++ b) = dictKeys a ++ dictKeys b :=
  List.filterMap_append

theorem dictKeys_map_str {α} (key : α → String) (val : α → Val) (l : List α) :
    dictKeys (l.map fun a => (.str (key a), val a)) = l.map key := by
  induction l with
  | nil => rfl
  | cons a l ih => rw [List.map_cons, List.map_cons, dictKeys_cons_str, ih]

theorem dictGetV_eq_none {kv : List (Val × Val)} {k : String} : dictGetV kv k = none ↔ k ∉ dictKeys kv := by
  induction kv with
  | nil => exact ⟨fun _ => nofun, fun _ => rfl⟩
  | cons e rest ih =>
    rw [dictGetV_cons, mem_dictKeys_cons, not_or, ← strEq_iff, ← ih]
    split <;> rename_i hk
    · exact ⟨nofun, fun h => absurd hk h.1⟩
    · exact ⟨fun h => ⟨hk, h⟩, fun h => h.2⟩

theorem dictGetV_mem {kv : List (Val × Val)} {s : String} {x : Val} (h : dictGetV kv s = some x) : ∃ k, (k, x) ∈ kv := by
  induction kv with
  | nil => cases h
  | cons e rest ih =>
    rw [dictGetV_cons] at h
    split at h
    · cases h; exact ⟨e.1, List.mem_cons_self⟩
    · exact (ih h).imp fun _ => List.mem_cons_of_mem _

end Dict
