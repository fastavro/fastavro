/-
  Proofs/ReadSkip.lean — `skip_data` is `read_data` with the value thrown away: wherever a read succeeds,
  the skip (same budget, same table) succeeds and stops at the same place.  (Not conversely: a skip does
  not look up the enum symbol (`skip_enum` is `read_long`) or convert logical types, so it gets past bytes
  on which the read raises.  Strings and map keys it does decode: `skip_utf8` calls `read_utf8`.)
-/
import Model.Binary
import Proofs.R

namespace ReadSkip
open Binary R

def Discards {α} (rd : Bytes → R (α × Bytes)) (sk : Bytes → R Bytes) : Prop := ∀ p, Sim Prod.snd (rd p) (sk p)

/-- the read goes on to post-process its value — by a pure `g` (`.list xs`, `x :: xs`), or by a `k` that may raise
    (`readLogical`, `wrapUnionResult`) — and keeps the rest: the skip is the same -/
theorem discard_map {α β} {x : R (α × Bytes)} {y : R Bytes} (hx : Sim Prod.snd x y) (g : α → β) :
    Sim Prod.snd (x >>= fun (a, r) => pure (g a, r)) y :=
  hx.bind_left fun _ _ h => by cases h; rfl

theorem discard_bind {α β} {x : R (α × Bytes)} {y : R Bytes} (hx : Sim Prod.snd x y) (k : α → R β) :
    Sim Prod.snd (x >>= fun (a, r) => k a >>= fun b => pure (b, r)) y :=
  hx.bind_left fun _ _ h => by obtain ⟨_, _, h⟩ := (bind_ok_iff ..).1 h; cases h; rfl

section loops
variable {rd : Bytes → R (Val × Bytes)} {sk : Bytes → R Bytes} (h : Discards rd sk)
include h

theorem readItemsWith_skip : ∀ n, Discards (readItemsWith rd n) (skipItemsWith sk false n)
  | 0, _ => .pure _
  | n+1, p => by
    simp only [readItemsWith, skipItemsWith, Bool.false_eq_true, if_false, pure_bind]
    exact (h p).bind fun _ => discard_map (readItemsWith_skip n _) _

theorem readEntriesWith_skip : ∀ n p acc, Sim Prod.snd (readEntriesWith rd n p acc) (skipItemsWith sk true n p)
  | 0, _, _ => .pure _
  | n+1, p, _ => by
    simp only [readEntriesWith, skipItemsWith, if_true, bind_assoc, pure_bind]
    exact (Sim.refl _).bind fun _ => (h _).bind fun _ => readEntriesWith_skip n _ _

theorem readBlocksWith_skip : ∀ k c, Discards (readBlocksWith rd k c) (skipBlocksWith sk false k c)
  | 0, _, _ => .error
  | k+1, c, p => by
    simp only [readBlocksWith, skipBlocksWith]
    split
    · exact .pure _
    · exact (Sim.refl _).bind fun _ => (readItemsWith_skip h _ _).bind fun _ => (Sim.refl _).bind fun _ =>
        discard_map (readBlocksWith_skip k _ _) _

theorem readMapBlocksWith_skip : ∀ k c p acc,
    Sim Prod.snd (readMapBlocksWith rd k c p acc) (skipBlocksWith sk true k c p)
  | 0, _, _, _ => .error
  | k+1, c, p, acc => by
    simp only [readMapBlocksWith, skipBlocksWith]
    split
    · exact .pure _
    · exact (Sim.refl _).bind fun _ => (readEntriesWith_skip h _ _ _).bind fun _ => (Sim.refl _).bind fun _ =>
        readMapBlocksWith_skip k _ _ _

end loops

theorem readFieldsWith_skip {rd : Schema → Bytes → R (Val × Bytes)} {sk : Schema → Bytes → R Bytes}
    (h : ∀ s, Discards (rd s) (sk s)) : ∀ fs p acc, Sim Prod.snd (readFieldsWith rd fs p acc) (skipFieldsWith sk fs p)
  | [], _, _ => .pure _
  | f :: fs, p, _ => (h f.type p).bind fun _ => readFieldsWith_skip h fs _ _

theorem readPrim_skip (pr : Prim) : Discards (readPrim pr) (skipPrim pr) := fun p => by
  cases pr with
  | null => exact .pure _
  -- the read is the decoder itself; the skip binds it to drop the value
  | boolean | float | double => exact (Sim.refl _).bind_right fun _ => rfl
  -- both bind the same decoder (`decBytes`, `decUtf8` are `decBytesRaw`, `decUtf8Raw` with the value wrapped)
  | int | long | bytes | string => exact (Sim.refl _).bind fun _ => .pure _

theorem readData_skip (env : Env) (ro : ROpts) : ∀ f s, Discards (readData f env ro s) (skipData f env s)
  | 0, _, _ => .error
  | f+1, s, p => by
    have ih := readData_skip env ro f
    cases s with
    | prim pr df lt =>
      simp only [readData, skipData]
      cases df
      · exact discard_map (readPrim_skip pr p) id
      · exact discard_bind (readPrim_skip pr p) _
    | fixed n sz lt al =>
      simp only [readData, skipData]
      exact discard_bind ((Sim.refl _).bind_right fun _ => rfl) _
    | enum n syms d al =>
      simp only [readData, skipData]
      refine (Sim.refl _).bind fun _ => ?_
      split
      · exact .pure _
      · exact .throw
    | array items =>
      simp only [readData, skipData]
      exact (Sim.refl _).bind fun _ => discard_map (readBlocksWith_skip (ih items) _ _ _) _
    | map values =>
      simp only [readData, skipData]
      exact (Sim.refl _).bind fun _ => discard_map (readMapBlocksWith_skip (ih values) _ _ _ _) _
    | union branches =>
      simp only [readData, skipData]
      refine (Sim.refl _).bind fun _ => ?_
      dsimp only [id]   -- both `match`es then scrutinise the same `indexChecked branches x.1`: one `split` serves both
      split
      · exact .throw
      · exact discard_bind (ih _ _) _
    | record n fields al =>
      simp only [readData, skipData]
      exact discard_map (readFieldsWith_skip ih _ _ _) _
    | ref n =>
      simp only [readData, skipData]
      split
      · exact ih _ p
      · exact .throw

end ReadSkip
