/-
  Proofs/Logical.lean — C16: each logical-type conversion characterised as a function of its input.  For the decimals
  that function is Python's `int.to_bytes(…, "big", signed=True)` of the unscaled value behind the guards, so that what
  is read back follows from `to_bytes` / `from_bytes` being inverse.
-/
import Model.Logical
import Proofs.R
import Proofs.Py

namespace LogicalProofs
open Logical

theorem readDate_ok (o : Int) (h : 1 ≤ o ∧ o ≤ 3652059) : readDate (o - 719163) = .ok (.date o) := by
  unfold readDate DAYS_SHIFT MAXORDINAL
  have e : o - 719163 + 719163 = o := by omega
  have h1 : ¬ (o < 1) := by omega
  have h2 : ¬ (o > 3652059) := by omega
  simp [e, h1, h2]

theorem prepareTimeMillis_time (us : Nat) : prepareTimeMillis (.time us) = .ok (.int ((us / 1000 : Nat) : Int)) := by
  unfold prepareTimeMillis truncDiv MLS_PER_HOUR MLS_PER_MINUTE MLS_PER_SECOND
  have h0 : (0:Int) ≤ (us : Int) % 1000000 := Int.emod_nonneg _ (by decide)
  simp only [Int.tdiv_eq_ediv_of_nonneg h0]
  congr 2
  omega

theorem readTimeMillis_ok (n : Int) (h0 : 0 ≤ n) (h : n < 86400000) :
    readTimeMillis n = .ok (.time (n * 1000).toNat) := by
  unfold readTimeMillis truncDiv MLS_PER_HOUR MLS_PER_MINUTE MLS_PER_SECOND
  simp only [Int.tdiv_eq_ediv_of_nonneg h0, Int.fmod_eq_emod_of_nonneg _ (show (0:Int) ≤ 60 by decide),
    Int.fmod_eq_emod_of_nonneg _ (show (0:Int) ≤ 1000 by decide)]
  have h1 : ¬ (n / 3600000 < 0) ∧ ¬ (n / 3600000 > 23) := by omega
  simp only [h1, decide_false, Bool.or_self, Bool.false_eq_true, ↓reduceIte, Except.ok.injEq, Val.time.injEq]
  congr 1
  omega

theorem readTimeMicros_ok (n : Int) (h0 : 0 ≤ n) (h : n < 86400000000) :
    readTimeMicros n = .ok (.time n.toNat) := by
  unfold readTimeMicros truncDiv MCS_PER_HOUR MCS_PER_MINUTE MCS_PER_SECOND
  simp only [Int.tdiv_eq_ediv_of_nonneg h0, Int.fmod_eq_emod_of_nonneg _ (show (0:Int) ≤ 60 by decide),
    Int.fmod_eq_emod_of_nonneg _ (show (0:Int) ≤ 1000000 by decide)]
  have h1 : ¬ (n / 3600000000 < 0) ∧ ¬ (n / 3600000000 > 23) := by omega
  simp only [h1, decide_false, Bool.or_self, Bool.false_eq_true, ↓reduceIte, Except.ok.injEq, Val.time.injEq]
  congr 1
  omega

theorem prepareTimeMicros_time (us : Nat) : prepareTimeMicros (.time us) = .ok (.int (us : Int)) := by
  unfold prepareTimeMicros MCS_PER_HOUR MCS_PER_MINUTE MCS_PER_SECOND
  simp only
  congr 2
  omega

theorem prepareTimestampMillis_datetime (us : Int) (aware : Bool) :
    prepareTimestampMillis (.datetime us aware) = .ok (.int (us / 1000)) := by
  unfold prepareTimestampMillis tdNorm truncDiv MLS_PER_SECOND
  simp only [Int.fdiv_eq_ediv_of_nonneg _ (show (0:Int) ≤ 86400000000 by decide),
    Int.fmod_eq_emod_of_nonneg _ (show (0:Int) ≤ 86400000000 by decide),
    Int.fdiv_eq_ediv_of_nonneg _ (show (0:Int) ≤ 1000000 by decide),
    Int.fmod_eq_emod_of_nonneg _ (show (0:Int) ≤ 1000000 by decide)]
  have h0 : (0:Int) ≤ us % 86400000000 % 1000000 := Int.emod_nonneg _ (by decide)
  rw [Int.tdiv_eq_ediv_of_nonneg h0]
  congr 2
  omega

theorem prepareTimestampMicros_datetime (us : Int) (aware : Bool) :
    prepareTimestampMicros (.datetime us aware) = .ok (.int us) := by
  unfold prepareTimestampMicros tdNorm MCS_PER_SECOND
  simp only [Int.fdiv_eq_ediv_of_nonneg _ (show (0:Int) ≤ 86400000000 by decide),
    Int.fmod_eq_emod_of_nonneg _ (show (0:Int) ≤ 86400000000 by decide),
    Int.fdiv_eq_ediv_of_nonneg _ (show (0:Int) ≤ 1000000 by decide),
    Int.fmod_eq_emod_of_nonneg _ (show (0:Int) ≤ 1000000 by decide)]
  congr 2
  omega

theorem readTimestamp_ok (aware : Bool) (us : Int) (h : DT_MIN_US ≤ us ∧ us ≤ DT_MAX_US) :
    readTimestamp aware us = .ok (.datetime us aware) := by
  simp [readTimestamp, Int.not_lt.mpr h.1, Int.not_lt.mpr h.2]

theorem digitsToNat_append_zeros (ds : List Nat) (k : Nat) :
    digitsToNat (ds ++ List.replicate k 0) = digitsToNat ds * 10 ^ k := by
  unfold digitsToNat
  rw [List.foldl_append]
  generalize List.foldl (fun acc d => acc * 10 + d) 0 ds = a
  induction k generalizing a with
  | zero => simp
  | succ k ih =>
    simp only [List.replicate_succ, List.foldl_cons, Nat.add_zero, ih, Nat.pow_succ]
    rw [Nat.mul_assoc, Nat.mul_comm 10]

def signedUnscaled (sign : Bool) (u : Nat) : Int := if sign then -(u : Int) else (u : Int)

theorem prepareBytesDecimal_eq (lt : LogT) (sign : Bool) (digits : List Nat) (exp : Int) :
    prepareBytesDecimal lt (.decimal sign digits exp) =
      match lt.precision with
      | none => .error .index
      | some p =>
        if (digits.length : Int) > p ∨ exp + lt.scale < 0 then .error .value else
        match Py.toBytesBESigned ((Py.bitLength (10 ^ (exp + lt.scale).toNat * digitsToNat digits) + 8) / 8)
          (signedUnscaled sign (10 ^ (exp + lt.scale).toNat * digitsToNat digits)) with
        | some b => .ok (.bytes b)
        | none => .error .value := by
  unfold prepareBytesDecimal
  cases lt.precision with
  | none => rfl
  | some p =>
    simp only [R.pure_bind]
    by_cases h1 : (digits.length : Int) > p
    · simp only [h1, true_or, ↓reduceIte]; rfl
    by_cases h2 : exp + lt.scale < 0
    · simp only [h1, h2, or_true, ↓reduceIte]; rfl
    simp only [h1, h2, or_self, ↓reduceIte]; rfl

/-- the digits after padding with `exp + scale` zeros (`prepare_fixed_decimal`) -/
def paddedDigits (digits : List Nat) (exp scale : Int) : List Nat :=
  if exp + scale > 0 then digits ++ List.replicate (exp + scale).toNat 0 else digits

/-- all-ones from bit `b` up, or-ed with `2^b - u`, is `-u` in two's complement at any width `S`:
    modulo `2^S` it is `2^S - u`, whether or not `b ≤ S` -/
theorem masked_neg (S b x : Nat) (hb : x < 2 ^ b) (hS : x < 2 ^ S) :
    (((2^S - 1) ^^^ (2^b - 1)) ||| (2^b - (x + 1))) % 2^S = 2^S - (x + 1) := by
  apply Nat.eq_of_testBit_eq
  intro i
  rw [Nat.testBit_mod_two_pow, Nat.testBit_or, Nat.testBit_xor, Nat.testBit_two_pow_sub_one,
    Nat.testBit_two_pow_sub_one, Nat.testBit_two_pow_sub_succ hb, Nat.testBit_two_pow_sub_succ hS]
  by_cases h1 : i < S <;> by_cases h2 : i < b <;> simp [h1, h2]
  -- left: `i < S`, `b ≤ i`, where bit `i` of `x` is clear, as `x < 2^b ≤ 2^i`
  exact Nat.testBit_lt_two_pow (Nat.lt_of_lt_of_le hb (Nat.pow_le_pow_right (by decide) (by omega)))

theorem fixed_neg (size u : Nat) (hu0 : u ≠ 0) (hr : u ≤ 2 ^ (size * 8 - 1)) (hs : size ≠ 0) :
    Py.toBytesBE size (((2 ^ (size * 8) - 1) ^^^ (2 ^ (Py.bitLength u + 1) - 1)) ||| (2 ^ (Py.bitLength u + 1) - u)) =
    Py.toBytesBE size (2 ^ (size * 8) - u) := by
  obtain ⟨x, rfl⟩ : ∃ x, u = x + 1 := ⟨u - 1, by omega⟩
  have h1 := Py.lt_two_pow_bitLength (x + 1)
  have h2 : 2 ^ (size * 8) = 2 * 2 ^ (size * 8 - 1) := by rw [← Nat.pow_succ']; congr 1; omega
  apply Py.toBytesBE_congr
  rw [← Py.two_pow_eight_mul, Nat.mul_comm 8 size,
    masked_neg _ _ x (by rw [Nat.pow_succ]; omega) (by omega), Nat.mod_eq_of_lt (by omega)]

/-- the non-negative branch: `bytes_req` bytes hold `bits_req` bits, and the zero bytes in front make up `size` -/
theorem fixed_nonneg (size u : Nat) (hr : u < 2 ^ (size * 8 - 1)) (hs : size ≠ 0) :
    List.replicate ((((size * 8 : Nat) : Int) - ((Py.bitLength u + 1 : Nat) : Int)).fdiv 8).toNat 0 ++
      Py.toBytesBE (if Py.bitLength u + 1 < 8 then 1 else
        if (Py.bitLength u + 1) % 8 != 0 then (Py.bitLength u + 1) / 8 + 1 else (Py.bitLength u + 1) / 8) u =
    Py.toBytesBE size u := by
  have hbl := Py.bitLength_le hr
  have hlt := Py.lt_two_pow_bitLength u
  generalize Py.bitLength u = bl at *
  -- `bytes_req` is `bits_req / 8` rounded up
  have hb : (if bl + 1 < 8 then 1 else if (bl + 1) % 8 != 0 then (bl + 1) / 8 + 1 else (bl + 1) / 8) = (bl + 8) / 8 := by
    split
    · omega
    · split <;> rename_i h8 hm <;> simp only [bne_iff_ne, ne_eq, Decidable.not_not] at hm <;> omega
  have hz : ((((size * 8 : Nat) : Int) - ((bl + 1 : Nat) : Int)) / 8).toNat + (bl + 8) / 8 = size := by omega
  rw [hb, Int.fdiv_eq_ediv_of_nonneg _ (by decide),
    ← Py.toBytesBE_pad _ (Nat.lt_of_lt_of_le hlt (Nat.pow_le_pow_right (by decide) (by omega))), hz]

/-- `to_bytes(size, signed=True)` of `±u`, by the sign as `prepare_fixed_decimal` normalises it (never set for zero) -/
theorem toBytesBESigned_signed (size : Nat) (sg : Bool) (u : Nat) (hs : size ≠ 0) (hsu : sg = true → u ≠ 0) :
    Py.toBytesBESigned size (signedUnscaled sg u) =
      if (u : Int) > 2 ^ (size * 8 - 1) - (if sg then 0 else 1) then none
      else some (Py.toBytesBE size (if sg then 2 ^ (size * 8) - u else u)) := by
  have hc : ((2 : Int) ^ (size * 8 - 1)) = ((2 ^ (size * 8 - 1) : Nat) : Int) := by simp
  rw [hc, Nat.mul_comm]
  cases sg with
  | false =>
    -- the code's range test `u > 2^(bits-1) - 1` is `to_bytes`' overflow test for a non-negative value
    have hov : ((u : Int) > ((2 ^ (8 * size - 1) : Nat) : Int) - 1) ↔ ¬ u < 2 ^ (8 * size - 1) := by omega
    simp only [Py.toBytesBESigned, signedUnscaled, hs, Bool.false_eq_true, ↓reduceIte, ge_iff_le, Int.natCast_nonneg,
      Int.toNat_natCast, hov, ite_not]
  | true =>
    -- … and `u > 2^(bits-1)` the one for a negative value
    have hneg : ¬ (-(u : Int) ≥ 0) := by have := hsu rfl; omega
    have hov : ((u : Int) > ((2 ^ (8 * size - 1) : Nat) : Int)) ↔ ¬ u ≤ 2 ^ (8 * size - 1) := by omega
    simp only [Py.toBytesBESigned, signedUnscaled, hs, ↓reduceIte, hneg, Int.neg_neg, Int.toNat_natCast, Int.sub_zero,
      hov, ite_not]

/-- once the digit-count and scale guards pass, the mask / bits_req / offset_bits algorithm of `prepare_fixed_decimal`
    writes exactly the sign-extended two's complement, and its range check is `to_bytes`' OverflowError (negative zero
    is zero) -/
theorem prepareFixedDecimal_eq (lt : LogT) (size : Nat) (sign : Bool) (digits : List Nat) (exp : Int) :
    prepareFixedDecimal lt size (.decimal sign digits exp) =
      match lt.precision with
      | none => .error .index
      | some p =>
        if (digits.length : Int) > p ∨ -exp > lt.scale ∨ size = 0 then .error .value else
        match Py.toBytesBESigned size (signedUnscaled sign (digitsToNat (paddedDigits digits exp lt.scale))) with
        | some b => .ok (.bytes b)
        | none => .error .value := by
  cases hp : lt.precision with
  | none => simp only [prepareFixedDecimal, hp]; rfl
  | some p =>
    simp only [prepareFixedDecimal, hp, R.pure_bind]
    by_cases h1 : (digits.length : Int) > p
    · simp only [h1, true_or, ↓reduceIte]; rfl
    by_cases h2 : -exp > lt.scale
    · simp only [h1, h2, true_or, or_true, ↓reduceIte]; rfl
    by_cases hs : size = 0
    · simp only [h1, h2, hs, or_true, ↓reduceIte]; rfl
    have hpad : (if exp + lt.scale > 0 then digits ++ List.replicate (exp + lt.scale).toNat 0 else digits) =
        paddedDigits digits exp lt.scale := rfl
    have hS : ¬ size * 8 = 0 := by omega
    simp only [bind, Except.bind, pure, Except.pure, h1, h2, hs, hS, or_self, ↓reduceIte, hpad]
    generalize digitsToNat (paddedDigits digits exp lt.scale) = u
    -- negative zero is zero
    have hsg : signedUnscaled sign u = signedUnscaled (if u = 0 then false else sign) u := by
      split
      · subst_vars; cases sign <;> rfl
      · rfl
    have hsu : (if u = 0 then false else sign) = true → u ≠ 0 := by split <;> simp [*]
    rw [hsg, toBytesBESigned_signed size _ u hs hsu]
    generalize (if u = 0 then false else sign) = sg at *
    have hc : ((2 : Int) ^ (size * 8 - 1)) = ((2 ^ (size * 8 - 1) : Nat) : Int) := by simp
    have hq := Nat.two_pow_pos (size * 8 - 1)
    -- both sides branch on the same range test; out of range both raise, in range the bytes agree
    cases sg <;> simp only [Bool.false_eq_true, ↓reduceIte] <;> split
    · rfl                                               -- `+u`, out of range
    · rw [fixed_nonneg size u (by omega) hs]            -- `+u`, in range
    · rfl                                               -- `-u`, out of range
    · rw [fixed_neg size u (hsu rfl) (by omega) hs]     -- `-u`, in range

end LogicalProofs
