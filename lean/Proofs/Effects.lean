/-
  Proofs/Effects.lean — C17: under the footprint condition `Safe` the result of a call does not
  depend on the history of earlier calls.  C18: threads that only read shared objects produce, under
  every interleaving, the results they produce alone.
-/
import Model.Effects

namespace Effects

theorem exec_frame {A V Res} (calls : List (Call A V Res)) (g : Obj) (hg : ∀ c ∈ calls, g ∉ c.writes)
    (h : List (Call A V Res × A)) (hh : ∀ ca ∈ h, ca.1 ∈ calls) (σ : Obj → V) : exec σ h g = σ g := by
  induction h generalizing σ with
  | nil => rfl
  | cons ca rest ih =>
    obtain ⟨c, a⟩ := ca
    simp only [exec]
    rw [ih (fun x hx => hh x (by simp [hx]))]
    exact c.frame a σ g (hg c (hh (c, a) (by simp)))

theorem history_independent {A V Res} (calls : List (Call A V Res)) (hs : Safe calls)
    (h : List (Call A V Res × A)) (hh : ∀ ca ∈ h, ca.1 ∈ calls) (σ₀ : Obj → V)
    (c : Call A V Res) (hc : c ∈ calls) (a : A) :
    (c.run a (exec σ₀ h)).1 = (c.run a σ₀).1 := by
  apply c.dep
  intro g hg
  exact exec_frame calls g (fun c' hc' => hs c hc g hg c' hc') h hh σ₀

/-- a call gives the same result after any two histories of calls from `calls`: a used interpreter answers as a fresh one
    does, and as one that was used differently -/
theorem store_independent {A V Res} (calls : List (Call A V Res)) (hs : Safe calls)
    (h h' : List (Call A V Res × A)) (hh : ∀ ca ∈ h, ca.1 ∈ calls) (hh' : ∀ ca ∈ h', ca.1 ∈ calls) (σ₀ : Obj → V)
    (c : Call A V Res) (hc : c ∈ calls) (a : A) :
    (c.run a (exec σ₀ h)).1 = (c.run a (exec σ₀ h')).1 := by
  rw [history_independent calls hs h hh σ₀ c hc a, history_independent calls hs h' hh' σ₀ c hc a]

namespace Prog

theorem step_readOnly {V Res} (σ : Obj → V) (p : Prog V Res) (h : p.readOnly) :
    (step σ p).2 = σ ∧ (step σ p).1.readOnly := by
  cases p with
  | done r => exact ⟨rfl, h⟩
  | read g k => exact ⟨rfl, h (σ g)⟩
  | write g v k => exact h.elim

theorem runAlone_succ {V Res} (σ : Obj → V) (n : Nat) (p : Prog V Res) (h : p.readOnly) :
    (runAlone σ (n+1) p).1 = (step σ (runAlone σ n p).1).1 ∧ (runAlone σ n p).2 = σ ∧ (runAlone σ n p).1.readOnly := by
  induction n generalizing p with
  | zero => exact ⟨rfl, rfl, h⟩
  | succ n ih =>
    obtain ⟨h1, h2⟩ := step_readOnly σ p h
    have := ih (step σ p).1 h2
    simp only [runAlone, h1] at this ⊢
    exact this

end Prog

def count (i : Nat) (sched : List Nat) : Nat := (sched.filter (· == i)).length

theorem count_cons (i j : Nat) (sched : List Nat) :
    count i (j :: sched) = if j = i then count i sched + 1 else count i sched := by
  simp only [count, List.filter_cons, beq_iff_eq]
  split <;> rfl

theorem stepAt_readOnly {V Res} (threads : List (Prog V Res)) (σ : Obj → V) (hro : ∀ p ∈ threads, p.readOnly) (j : Nat) :
    ∃ threads', (Sys.mk threads σ).stepAt j = ⟨threads', σ⟩ ∧ (∀ p ∈ threads', p.readOnly) ∧
      threads'.length = threads.length ∧
      ∀ i p, threads[i]? = some p → threads'[i]? = some (if j = i then (Prog.step σ p).1 else p) := by
  unfold Sys.stepAt
  cases hj : threads[j]? with
  | none =>
    refine ⟨threads, rfl, hro, rfl, fun i p hp => ?_⟩
    rw [hp, if_neg]
    rintro rfl
    rw [hj] at hp; cases hp
  | some q =>
    obtain ⟨hσ, hq⟩ := Prog.step_readOnly σ q (hro q (List.mem_of_getElem? hj))
    refine ⟨threads.set j (Prog.step σ q).1, by simp only [hσ], ?_, List.length_set, fun i p hp => ?_⟩
    · intro p hp
      rcases List.mem_or_eq_of_mem_set hp with hp | rfl
      · exact hro p hp
      · exact hq
    · rw [List.getElem?_set]
      split
      · rename_i hji
        subst hji
        rw [hj] at hp; cases hp
        rw [if_pos (List.getElem?_eq_some_iff.mp hj).1]
      · exact hp

theorem interleaving_serializable {V Res} (threads : List (Prog V Res)) (σ : Obj → V)
    (hro : ∀ p ∈ threads, p.readOnly) (sched : List Nat) :
    let s := (Sys.mk threads σ).runSched sched
    s.store = σ ∧ s.threads.length = threads.length ∧
    ∀ i p, threads[i]? = some p → s.threads[i]? = some (Prog.runAlone σ (count i sched) p).1 := by
  induction sched generalizing threads with
  | nil => exact ⟨rfl, rfl, fun i p hp => hp⟩
  | cons j rest ih =>
    obtain ⟨threads', hstep, hro', hlen, hth⟩ := stepAt_readOnly threads σ hro j
    obtain ⟨h1, h2, h3⟩ := ih threads' hro'
    simp only [Sys.runSched, hstep]
    refine ⟨h1, h2.trans hlen, fun i p hp => ?_⟩
    rw [h3 i _ (hth i p hp), count_cons]
    split
    · -- running alone: one step first, then the rest
      rw [Prog.runAlone, (Prog.step_readOnly σ p (hro p (List.mem_of_getElem? hp))).1]
    · rfl

end Effects
