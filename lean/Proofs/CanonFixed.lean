/-
  Proofs/CanonFixed.lean — C13, fixed-point clause at the level of JSON values: `Spec.pcf` maps `Canon.toRaw s`, the JSON
  value the canonical text `Canon.canon s` denotes, to that text again (`fp_all`), provided every name reads back, in the
  namespace context the canonical form gives it, as the same full name (`inScope`).
-/
import Proofs.Canon
import Proofs.DictGet

namespace Canon

def nsOfFull (name : String) : String :=
  if name.contains '.' then ".".intercalate (name.splitOn ".").dropLast else ""

mutual
/-- a name without a dot occurs only where no namespace is in effect (finding F18 is about the others), and no reference
    is spelled like a primitive -/
def inScope (ns : String) : Schema → Bool
  | .union bs => inScopeL ns bs
  | .prim _ _ _ => true
  | .ref n => (n.contains '.' || ns == "") && !Spec.PRIMS.contains n
  | .array items => inScope ns items
  | .map values => inScope ns values
  | .enum name _ _ _ => name.contains '.' || ns == ""
  | .fixed name _ _ _ => name.contains '.' || ns == ""
  | .record name fields _ => (name.contains '.' || ns == "") && inScopeF (nsOfFull name) fields
def inScopeL (ns : String) : List Schema → Bool
  | [] => true
  | s :: rest => inScope ns s && inScopeL ns rest
def inScopeF (ns : String) : List Field → Bool
  | [] => true
  | .mk _ t _ _ :: rest => inScope ns t && inScopeF ns rest
end

mutual
def depth : Schema → Nat
  | .union bs => depthL bs + 1
  | .array items => depth items + 1
  | .map values => depth values + 1
  | .record _ fields _ => depthF fields + 1
  | _ => 1
def depthL : List Schema → Nat
  | [] => 0
  | s :: rest => max (depth s) (depthL rest)
def depthF : List Field → Nat
  | [] => 0
  | .mk _ t _ _ :: rest => max (depth t) (depthF rest)
end

end Canon

namespace CanonProofs
open Canon Spec Dict

/-- on `toRaw` of a named type: the full name under `name`, no `namespace` key -/
theorem fullNameOf_canon (name : String) (rest : List (Val × Val)) (ns : String) (h : (name.contains '.' || ns == "") = true)
    (hns : dictGetV rest "namespace" = none) :
    fullNameOf ((.str "name", .str name) :: rest) ns = some (nsOfFull name, name) := by
  rw [fullNameOf, dictGetV_cons_self, dictGetV_cons_ne (by decide), hns, nsOfFull]
  cases hd : name.contains '.'
  · obtain rfl : ns = "" := by simpa [hd] using h
    simp only [hd, Bool.false_eq_true, if_false, bne_self_eq_false]
  · simp only [hd, if_true]

theorem symText_map (syms : List String) : mapM? symText (syms.map Val.str) = some (syms.map Canon.q) := by
  induction syms with
  | nil => rfl
  | cons x xs ih => exact mapM?_cons rfl ih

def FPat (fuel : Nat) : Prop :=
  ∀ (s : Schema) (ns : String), inScope ns s = true → depth s ≤ fuel → pcf fuel (toRaw s) ns = some (canon s)

theorem fp_list (fuel : Nat) (IH : FPat fuel) (ns : String) : ∀ (bs : List Schema), inScopeL ns bs = true → depthL bs ≤ fuel →
    mapM? (fun b => pcf fuel b ns) (toRawList bs) = some (bs.map canon)
  | [], _, _ => rfl
  | b :: rest, hs, hd => by
    have hs : (inScope ns b && inScopeL ns rest) = true := hs
    have hd : max (depth b) (depthL rest) ≤ fuel := hd
    rw [Bool.and_eq_true] at hs
    exact mapM?_cons (IH b ns hs.1 (by omega)) (fp_list fuel IH ns rest hs.2 (by omega))

theorem fp_fields (fuel : Nat) (IH : FPat fuel) (ns : String) : ∀ (fs : List Field), inScopeF ns fs = true → depthF fs ≤ fuel →
    mapM? (fieldTextWith fun ty => pcf fuel ty ns) (toRawFields fs) = some (fs.map fieldText)
  | [], _, _ => rfl
  | .mk _ t _ _ :: rest, hs, hd => by
    have hs : (inScope ns t && inScopeF ns rest) = true := hs
    have hd : max (depth t) (depthF rest) ≤ fuel := hd
    rw [Bool.and_eq_true] at hs
    exact mapM?_cons (fieldTextWith_dict rfl rfl (IH t ns hs.1 (by omega))) (fp_fields fuel IH ns rest hs.2 (by omega))

/-- Each kind of schema is one equation of `Spec.pcf`: its canonical dict is literal, so the lookups that the equation
    asks for hold by evaluation, and the parts are the induction hypothesis. -/
theorem fp_all : ∀ fuel, FPat fuel
  | 0, s, _, _, hd => by cases s <;> exact absurd hd (Nat.not_succ_le_zero _)
  | fuel+1, s, ns, hs, hd => by
    have IH := fp_all fuel
    cases s with
    | prim p df lt => rw [toRaw, pcf_str, if_pos (p.name_mem_PRIMS), canon_prim, q_eq]
    | ref n =>
      have hs : ((n.contains '.' || ns == "") && !PRIMS.contains n) = true := hs
      rw [Bool.and_eq_true, Bool.not_eq_true'] at hs
      rw [toRaw, pcf_str, hs.2, canon_ref, q_eq, refName]
      cases hd' : n.contains '.'
      · obtain rfl : ns = "" := by simpa [hd'] using hs.1
        rfl
      · rfl
    | union bs =>
      rw [toRaw, pcf_list, fp_list fuel IH ns bs hs (Nat.le_of_succ_le_succ hd), canon_union, canonList_eq]; rfl
    | array items => rw [toRaw, pcf_array rfl rfl, IH items ns hs (Nat.le_of_succ_le_succ hd), canon_array]; rfl
    | map values => rw [toRaw, pcf_map rfl rfl, IH values ns hs (Nat.le_of_succ_le_succ hd), canon_map]; rfl
    | enum name syms dflt al =>
      rw [toRaw, pcf_enum rfl (fullNameOf_canon name _ ns hs rfl) rfl, symText_map, canon_enum, ← commaSep_eq]; rfl
    | fixed name size lt al => rw [toRaw, pcf_fixed rfl (fullNameOf_canon name _ ns hs rfl) rfl, canon_fixed]; rfl
    | record name fields al =>
      have hs : ((name.contains '.' || ns == "") && inScopeF (nsOfFull name) fields) = true := hs
      rw [Bool.and_eq_true] at hs
      rw [toRaw, pcf_record rfl (fullNameOf_canon name _ ns hs.1 rfl), canon_record, canonFields_eq]
      show (mapM? _ (toRawFields fields)).bind _ = _
      rw [fp_fields fuel IH _ fields hs.2 (Nat.le_of_succ_le_succ hd)]; rfl

end CanonProofs
